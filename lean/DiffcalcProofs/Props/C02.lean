import Diffcalc.Solver.Mode
import DiffcalcProofs.Lemmas.PyCalc
import DiffcalcProofs.Lemmas.SolveTrig
/-!
# C02 — every returned position honours all three active constraints

Model: `Diffcalc/Solver/*.lean` (hand, tie H).  Three layers, for every mode:
* **pass-through**: every candidate tuple carries each constrained sample / detector axis at exactly the constrained
  value (`passthrough_*`), for every branch of the dispatcher;
* **tidy-up**: the degenerate tidy-up never changes a constrained axis (`tidy_preserves_constrained`);
* **filter**: everything returned passed the read-back filter for the reference / qaz / naz constraint (`filter_sound`).
Together: `getPosition_honours_axes`.
The walk over the branches of the sample, detector and reference layers (`tame_*`) records at the same time that they raise nothing but
DiffcalcException: that half is C11's (`C11.noLeak_*`).
-/
namespace C02
open Solver PyOps
noncomputable section

/-! ## the sample layer -/

/-- predicates on sample tuples `(mu, eta, chi, phi)` -/
def muIs (v : ℝ) (t : STuple ℝ) : Prop := t.1 = v
def etaIs (v : ℝ) (t : STuple ℝ) : Prop := t.2.1 = v
def chiIs (v : ℝ) (t : STuple ℝ) : Prop := t.2.2.1 = v
def phiIs (v : ℝ) (t : STuple ℝ) : Prop := t.2.2.2 = v

theorem tame_sampleConMuEta (mu eta qaz theta : ℝ) (N : M3 ℝ) :
    Tame (fun t => muIs mu t ∧ etaIs eta t) (sampleConMuEta mu eta qaz theta N) :=
  tame_ite tame_dce <| tame_tryAssert (onlyAD_boundAsin _) fun _ _ => tame_ok <| allOk_ok_map fun _ => ⟨rfl, rfl⟩

theorem pt_sampleConMuEta (mu eta qaz theta : ℝ) (N : M3 ℝ) :
    AllOk (fun t => muIs mu t ∧ etaIs eta t) (sampleConMuEta mu eta qaz theta N) :=
  (tame_sampleConMuEta mu eta qaz theta N).allOk

theorem tame_sampleFromChiEta (chi eta : ℝ) (Z : M3 ℝ) :
    Tame (fun t => chiIs chi t ∧ etaIs eta t) (sampleFromChiEta chi eta Z) :=
  tame_ite tame_dce <| tame_ok <| allOk_one ⟨rfl, rfl⟩

/-- what a detector + two-sample mode constrains among the sample axes -/
def Samp2Det.Honours : Samp2Det ℝ → STuple ℝ → Prop
  | .muEta m e, t => muIs m t ∧ etaIs e t
  | .omegaBisect _, _ => True          -- no single axis is constrained (the bisect relation: `omegaBisect_relation` in C02Bisect.lean)
  | .muBisect m, t => muIs m t
  | .etaBisect e, t => etaIs e t
  | .chiPhi c p, t => chiIs c t ∧ phiIs p t
  | .muPhi m p, t => muIs m t ∧ phiIs p t
  | .muChi m c, t => muIs m t ∧ chiIs c t
  | .etaPhi e p, t => etaIs e t ∧ phiIs p t
  | .etaChi e c, t => etaIs e t ∧ chiIs c t

/-- the nine branches of `_calc_sample_con_two_sample_and_detector`: guards that raise DiffcalcException, one `bound` under `try`, lists -/
theorem tame_twoSampleDetector (s : Samp2Det ℝ) (qaz theta : ℝ) (N : M3 ℝ) :
    Tame (Samp2Det.Honours s) (twoSampleDetector s qaz theta N) := by
  -- the three bisect branches loop over `__calc_sample_con_mu_eta`
  have loop {ι : Type} (xs : List ι) (m e : ι → ℝ) {P : STuple ℝ → Prop} (hP : ∀ x t, muIs (m x) t ∧ etaIs (e x) t → P t) :
      Tame P (forM' xs fun x => sampleConMuEta (m x) (e x) qaz theta N) :=
    tame_forM' fun x _ => (tame_sampleConMuEta _ _ _ _ _).mono (hP x)
  cases s with
  | muEta mu eta => exact tame_sampleConMuEta _ _ _ _ _
  | omegaBisect om => exact loop _ _ _ fun _ _ _ => trivial
  | muBisect mu =>
    show Tame (muIs mu) (sampleConMuBisect mu qaz theta N)
    unfold sampleConMuBisect
    dsimp only
    split
    · exact tame_ok allOk_nil
    · exact loop _ _ _ fun _ _ h => h.1
  | etaBisect eta =>
    have rest (ms : List ℝ) : Tame (etaIs eta) (forM' ms fun m => sampleConMuEta m eta qaz theta N) := loop _ _ _ fun _ _ h => h.2
    exact tame_ite (tame_ite (rest _) (tame_ok allOk_nil)) <|
      tame_tryAssert (onlyAD_boundAsin _) fun _ _ => tame_ite (rest _) (rest _)
  | chiPhi chi phi =>
    exact tame_tryAssert (onlyAD_sqrt_bind (sumsq_nonneg _ _ _) fun _ => onlyAD_boundAsin _) fun _ _ => tame_forM' fun _ _ =>
      tame_ite tame_dce <| tame_ok <| allOk_one ⟨rfl, rfl⟩
  | muPhi mu phi => exact tame_tryAssert (onlyAD_boundAsin _) fun _ _ => tame_ok <| allOk_ok_map fun _ => ⟨rfl, rfl⟩
  | muChi mu chi =>
    exact tame_ite tame_dce <| tame_ite tame_dce <| tame_tryAssert (onlyAD_boundAcos _) fun _ _ => tame_forM' fun _ _ =>
      tame_ite tame_dce <| tame_ok <| allOk_one ⟨rfl, rfl⟩
  | etaPhi eta phi =>
    exact tame_ite tame_dce <| tame_tryAssert (onlyAD_boundAcos _) fun _ _ => tame_ok <| allOk_ok_map fun _ => ⟨rfl, rfl⟩
  | etaChi eta chi =>
    exact tame_ite tame_dce <| tame_tryAssert (onlyAD_boundAcos _) fun _ _ => tame_forM' fun _ _ =>
      tame_ite tame_dce <| tame_ok <| allOk_one ⟨rfl, rfl⟩

def Samp1.Honours : Samp1 ℝ → STuple ℝ → Prop
  | .mu v, t => muIs v t | .phi v, t => phiIs v t | .eta v, t => etaIs v t | .chi v, t => chiIs v t

/-- the AssertionError that `_calc_N`'s `bound` could raise is NOT caught by its callers; it cannot occur for finite vectors
    (|cos| ≤ 1 by Cauchy–Schwarz) -/
theorem noLeak_calcN (Q n : V3 ℝ) : NoLeak (calcN Q n) :=
  noLeak_bind (noLeak_of_ok (angleBetween_eq _ _)) fun _ _ => noLeak_ok _

/-- `_calc_remaining_sample_angles` and its four branches -/
theorem tame_remainingSample (s : Samp1 ℝ) (theta alpha qaz : ℝ) (naz : Option ℝ) (N : M3 ℝ) :
    Tame (Samp1.Honours s) (remainingSample s theta alpha qaz naz N) :=
  tame_bind (noLeak_calcN _ _) fun Nl _ => by
    cases s with
    | mu v =>
      exact tame_catchAssert (allOk_bind fun _ _ => allOk_ite (allOk_one rfl) (allOk_ok_map fun _ => rfl))
        (onlyAD_bind (onlyAD_boundAcos _) fun _ _ => onlyAD_ite (onlyAD_ok _) (onlyAD_ok _))
    | phi v => exact tame_tryAssert (onlyAD_boundAsin _) fun _ _ => tame_ite tame_dce <| tame_ok <| allOk_ok_map fun _ => rfl
    | eta v =>
      exact tame_ite tame_dce <| tame_tryAssert (onlyAD_boundAsin _) fun _ _ => tame_forM' fun _ _ =>
        (tame_sampleFromChiEta _ _ _).mono fun _ h => h.2
    | chi v =>
      exact tame_ite tame_dce <| tame_tryAssert (onlyAD_boundAcos _) fun _ _ => tame_forM' fun _ _ =>
        (tame_sampleFromChiEta _ _ _).mono fun _ h => h.1

/-! ## the detector layer -/

def DetCon.Honours : DetCon ℝ → (ℝ × ℝ × ℝ) → Prop      -- (delta, nu, qaz)
  | .delta v, t => t.1 = v | .nu v, t => t.2.1 = v | .qaz v, t => t.2.2 = v

theorem tame_detRemaining (d : DetCon ℝ) (theta : ℝ) : Tame (DetCon.Honours d) (detRemaining d theta) := by
  cases d with
  | delta v =>
    -- the sign filter drops a pair or makes it a triple with `v` in the constrained place
    exact tame_catchAssert
      (allOk_bind fun _ _ => allOk_bind fun _ _ => allOk_ok <| List.forall_mem_filterMap.2 fun _ _ t ht => by
        obtain rfl : (v, _, _) = t := Option.some.inj (Option.ite_none_right_eq_some.1 ht).2
        rfl)
      (onlyAD_bind (onlyAD_boundAsin _) fun _ _ => onlyAD_bind (onlyAD_ite (onlyAD_ok _) (onlyAD_boundAcos _)) fun _ _ => onlyAD_ok _)
  | nu v =>
    exact tame_ite tame_dce <| tame_catchAssert
      (allOk_bind fun _ _ => allOk_bind fun _ _ => allOk_ok <| List.forall_mem_filterMap.2 fun _ _ t ht => by
        obtain rfl : (_, v, _) = t := Option.some.inj (Option.ite_none_right_eq_some.1 ht).2
        rfl)
      (onlyAD_bind (onlyAD_boundAcos _) fun _ _ => onlyAD_bind (onlyAD_boundAcos _) fun _ _ => onlyAD_ok _)
  | qaz v => exact tame_ok <| allOk_ok_map fun _ => rfl

theorem passthrough_detector (d : DetCon ℝ) (theta : ℝ) : AllOk (DetCon.Honours d) (detRemaining d theta) :=
  (tame_detRemaining d theta).allOk

/-! ## reference + two sample axes -/

def Samp2Ref.Honours : Samp2Ref ℝ → RTuple ℝ → Prop     -- (qaz, psi, mu, eta, chi, phi)
  | .chiPhi c p, t => t.2.2.2.2.1 = c ∧ t.2.2.2.2.2 = p
  | .muEta m e, t => t.2.2.1 = m ∧ t.2.2.2.1 = e
  | .chiEta c e, t => t.2.2.2.2.1 = c ∧ t.2.2.2.1 = e
  | .chiMu c m, t => t.2.2.2.2.1 = c ∧ t.2.2.1 = m
  | .muPhi m p, t => t.2.2.1 = m ∧ t.2.2.2.2.2 = p
  | .etaPhi e p, t => t.2.2.2.1 = e ∧ t.2.2.2.2.2 = p

/-- the six branches of `_calc_sample_con_two_sample_and_reference` -/
theorem tame_twoSampleReference (s : Samp2Ref ℝ) (psi theta : ℝ) (N : M3 ℝ) :
    Tame (Samp2Ref.Honours s) (twoSampleReference s psi theta N) := by
  cases s with
  | chiPhi chi phi =>
    exact tame_tryAssert (onlyAD_boundAsin _) fun _ _ => tame_forM' fun _ _ =>
      tame_ite tame_dce <| tame_ite tame_dce <| tame_ok <| allOk_one ⟨rfl, rfl⟩
  | muEta mu eta | chiEta chi eta =>
    -- what `bound` lets through is within [-1, 1], so the bare `acos` / `asin` behind it cannot raise
    exact tame_tryAssert (onlyAD_sqrt_bind (sumsq_nonneg _ _ _) fun _ => onlyAD_bound _) fun bot hb =>
      let ⟨_, _, hs⟩ := bind_ok_inv hb
      have hle := bound_ok_abs hs
      tame_ite (tame_bind (noLeak_of_ok (pyAcos_eq hle)) fun _ _ => tame_ok <| allOk_ok_map fun _ => ⟨rfl, rfl⟩)
        (tame_bind (noLeak_of_ok (pyAsin_eq hle)) fun _ _ => tame_ok <| allOk_ok_map fun _ => ⟨rfl, rfl⟩)
  | chiMu chi mu => exact tame_tryAssert (onlyAD_boundAsin _) fun _ _ => tame_ok <| allOk_ok_map fun _ => ⟨rfl, rfl⟩
  | muPhi mu phi | etaPhi eta phi =>
    -- the step bound in the loop is `__get_chi_and_qaz`: a guard that raises DiffcalcException, then a pair
    exact tame_ite tame_dce <| tame_tryAssert (onlyAD_boundAcos _) fun _ _ => tame_forM' fun _ _ =>
      tame_bind (noLeak_ite noLeak_dce (noLeak_ok _)) fun _ _ => tame_ok <| allOk_one ⟨rfl, rfl⟩

/-! ## candidates of every mode carry the constrained axes -/

/-- the axis constraints of a mode, on a candidate tuple `(mu, delta, nu, eta, chi, phi)` in radians -/
def SolHonours : Mode ℝ → Sol ℝ → Prop
  | .detRefSamp det _ _ s, (mu, delta, nu, eta, chi, phi) =>
    Samp1.Honours s (mu, eta, chi, phi) ∧ (match det with | some (.delta v) => delta = v | some (.nu v) => nu = v | _ => True)
  | .detSamp2 det s, (mu, delta, nu, eta, chi, phi) =>
    Samp2Det.Honours s (mu, eta, chi, phi) ∧ (match det with | .delta v => delta = v | .nu v => nu = v | .qaz _ => True)
  | .refSamp2 _ s, (mu, _, _, eta, chi, phi) =>
    (match s with
      | .chiPhi c p => chi = c ∧ phi = p | .muEta m e => mu = m ∧ eta = e | .chiEta c e => chi = c ∧ eta = e
      | .chiMu c m => chi = c ∧ mu = m | .muPhi m p => mu = m ∧ phi = p | .etaPhi e p => eta = e ∧ phi = p)
  | .samp3 free m e c p, (mu, _, _, eta, chi, phi) =>
    (free = .mu ∨ mu = m) ∧ (free = .eta ∨ eta = e) ∧ (free = .chi ∨ chi = c) ∧ (free = .phi ∨ phi = p)

theorem passthrough_samp3 (free : Free) (mu eta chi phi : ℝ) (h : V3 ℝ) (theta : ℝ) :
    AllOk (SolHonours (.samp3 free mu eta chi phi)) (threeSample free mu eta chi phi h theta) :=
  allOk_tryAssert fun _ _ => allOk_ok <| List.forall_mem_flatMap.2 fun _ _ => by
    cases free
    · exact List.forall_mem_map.2 fun _ _ => ⟨.inl rfl, .inr rfl, .inr rfl, .inr rfl⟩
    · exact List.forall_mem_map.2 fun _ _ => ⟨.inr rfl, .inl rfl, .inr rfl, .inr rfl⟩
    · exact List.forall_mem_map.2 fun _ _ => ⟨.inr rfl, .inr rfl, .inl rfl, .inr rfl⟩
    · exact List.forall_mem_map.2 fun _ _ => ⟨.inr rfl, .inr rfl, .inr rfl, .inl rfl⟩

theorem passthrough_refSamp2 (ref : RefCon ℝ) (s : Samp2Ref ℝ) (h n : V3 ℝ) (theta psi : ℝ) :
    AllOk (SolHonours (.refSamp2 ref s)) (twoSampleAndReference s h n theta psi) :=
  allOk_bind fun N _ => allOk_flatMap _ (tame_twoSampleReference s psi theta N).allOk fun ⟨_, _, _, _, _, _⟩ hh _ ht => by
    obtain ⟨_, _, rfl⟩ := List.mem_map.mp ht
    cases s <;> exact hh

theorem passthrough_detSamp2 (det : DetCon ℝ) (s : Samp2Det ℝ) (h n : V3 ℝ) (theta : ℝ) (alpha tau : Option ℝ) :
    AllOk (SolHonours (.detSamp2 det s)) (detSampleReference (some det) none (.two s) h n theta alpha tau) :=
  allOk_bind fun N _ => allOk_bind fun ds hds => allOk_forM' _ _ fun ⟨_, _, qaz⟩ hd =>
    allOk_map _ (tame_twoSampleDetector s qaz theta N).allOk fun ⟨_, _, _, _⟩ hs =>
      ⟨hs, by
        have := passthrough_detector det theta ds hds _ hd
        cases det
        · exact this
        · exact this
        · trivial⟩

/-- every element `(qaz, naz, delta, nu)` of `detOrNaz` comes from `detRemaining` and carries the constrained detector axis -/
theorem pt_detOrNaz (det : Option (DetCon ℝ)) (naz : Option ℝ) (theta : ℝ) (tau : Option ℝ) (alpha : ℝ) :
    AllOk (fun d => match det with | some (.delta v) => d.2.2.1 = v | some (.nu v) => d.2.2.2 = v | _ => True)
      (detOrNaz det naz theta tau alpha) :=
  allOk_ite (allOk_error _) <| allOk_tryAssert fun _ _ => by
    cases det with
    | none => exact fun _ _ _ _ => trivial
    | some dc =>
      refine allOk_flatMap _ (passthrough_detector dc theta) fun ⟨_, _, _⟩ hdet _ hd => ?_
      obtain ⟨_, _, rfl⟩ := List.mem_map.mp hd
      cases dc
      · exact hdet
      · exact hdet
      · trivial

theorem passthrough_detRefSamp (det : Option (DetCon ℝ)) (naz : Option ℝ) (ref : RefCon ℝ) (s : Samp1 ℝ) (h n : V3 ℝ)
    (theta alpha : ℝ) (tau : Option ℝ) :
    AllOk (SolHonours (.detRefSamp det naz ref s)) (detSampleReference det naz (.one s) h n theta (some alpha) tau) :=
  allOk_bind fun N _ => allOk_bind fun ds hds => allOk_forM' _ _ fun ⟨qaz, nz, _, _⟩ hd =>
    allOk_map _ (tame_remainingSample s theta alpha qaz nz N).allOk fun ⟨_, _, _, _⟩ hs =>
      ⟨hs, pt_detOrNaz det naz theta tau alpha ds hds _ hd⟩

/-- **pass-through, all modes**: every candidate of `__calc_hkl_to_position` carries the constrained sample and
    detector axes at exactly the constrained values -/
theorem candidates_honour (ub : UBIn ℝ) (mode : Mode ℝ) (hkl : V3 ℝ) (wl : ℝ) :
    AllOk (SolHonours mode) (candidates ub mode hkl wl) := by
  refine allOk_bind fun tth _ => ?_
  cases mode with
  | detRefSamp det naz ref s => exact allOk_bind fun ⟨_, _, _⟩ _ => passthrough_detRefSamp det naz ref s _ _ _ _ _
  | detSamp2 det s => exact passthrough_detSamp2 det s _ _ _ _ _
  | refSamp2 ref s =>
    refine allOk_bind fun ⟨_, _, _⟩ _ => allOk_forM' _ _ fun psi _ => ?_
    cases psi with
    | none => exact allOk_nil
    | some p => exact passthrough_refSamp2 ref s _ _ _ _
  | samp3 free mu eta chi phi => exact passthrough_samp3 free mu eta chi phi _ _

/-! ## the tidy-up never touches a constrained axis -/

theorem tidy_axes_spec (info : ModeInfo) (p : Pos ℝ) :
    (tidy info p).delta = p.delta ∧ (tidy info p).nu = p.nu ∧ (tidy info p).chi = p.chi ∧
    (info.hasMu = true → (tidy info p).mu = p.mu) ∧ (info.hasEta = true → (tidy info p).eta = p.eta) ∧
    (info.hasPhi = true → (tidy info p).phi = p.phi) := by
  unfold tidy
  dsimp only
  -- each shortcut is guarded by the flags of the two axes it moves
  split
  · rename_i h
    simp only [Bool.and_eq_true, Bool.not_eq_true'] at h
    exact ⟨rfl, rfl, rfl, fun _ => rfl, fun he => (Bool.eq_false_iff.mp h.1.2 he).elim, fun hp => (Bool.eq_false_iff.mp h.1.1.2 hp).elim⟩
  · split
    · rename_i h
      simp only [Bool.and_eq_true, Bool.not_eq_true'] at h
      exact ⟨rfl, rfl, rfl, fun hm => (Bool.eq_false_iff.mp h.1.2 hm).elim, fun _ => rfl, fun hp => (Bool.eq_false_iff.mp h.1.1.2 hp).elim⟩
    · exact ⟨rfl, rfl, rfl, fun _ => rfl, fun _ => rfl, fun _ => rfl⟩

/-- the axis constraints of a mode on a position in degrees -/
def PosHonours (mode : Mode ℝ) (p : Pos ℝ) : Prop :=
  ∃ s : Sol ℝ, SolHonours mode s ∧ p.delta = Scalar.toDeg s.2.1 ∧ p.nu = Scalar.toDeg s.2.2.1 ∧ p.chi = Scalar.toDeg s.2.2.2.2.1 ∧
    (mode.info.hasMu = true → p.mu = Scalar.toDeg s.1) ∧ (mode.info.hasEta = true → p.eta = Scalar.toDeg s.2.2.2.1) ∧
    (mode.info.hasPhi = true → p.phi = Scalar.toDeg s.2.2.2.2.2)

theorem tidy_preserves_constrained (mode : Mode ℝ) (s : Sol ℝ) (h : SolHonours mode s) :
    PosHonours mode (tidy mode.info (solToPos s)) := by
  obtain ⟨mu, delta, nu, eta, chi, phi⟩ := s
  exact ⟨(mu, delta, nu, eta, chi, phi), h, tidy_axes_spec mode.info (solToPos (mu, delta, nu, eta, chi, phi))⟩

/-! ## the read-back filter and the final statement -/

/-- what a successful `__calc_hkl_to_position` says about its list: it is not empty, and every pair in it is a tidied candidate together
    with the pseudo-angles of exactly that position, and passed the read-back filter -/
theorem hklToPosition_ok {ub : UBIn ℝ} {mode : Mode ℝ} {hkl : V3 ℝ} {wl : ℝ} {l : List (Pos ℝ × VAngles ℝ)}
    (h : hklToPosition ub mode hkl wl = .ok l) :
    l ≠ [] ∧ ∃ cands, candidates ub mode hkl wl = .ok cands ∧
      ∀ pv ∈ l, passesFilter pv.2 mode.refCon mode.detCon mode.nazCon = true ∧ virtualAngles ub pv.1 = .ok pv.2 ∧
        ∃ s ∈ cands, pv.1 = tidy mode.info (solToPos s) := by
  unfold hklToPosition at h
  obtain ⟨cands, hc, h⟩ := bind_ok_inv h
  obtain ⟨-, h⟩ | ⟨-, h⟩ := ite_eq_iff.mp h
  · cases h
  obtain ⟨pairs, hp, h⟩ := bind_ok_inv h
  obtain ⟨-, h⟩ | ⟨hne, h⟩ := ite_eq_iff.mp h
  · cases h
  cases h
  refine ⟨fun h0 => hne (by rw [h0]; rfl), cands, hc, fun ⟨p, va⟩ hpv => ?_⟩
  obtain ⟨hmem, hfil⟩ := List.mem_filter.mp hpv
  obtain ⟨x, hx, hfx⟩ := mem_mapM_ok _ _ hp (p, va) hmem
  obtain ⟨va', hva', hpair⟩ := bind_ok_inv hfx
  cases hpair
  obtain ⟨s, hs, rfl⟩ := List.mem_map.mp hx
  exact ⟨hfil, hva', s, hs, rfl⟩

/-- **filter soundness + provenance**: every pair produced by `__calc_hkl_to_position` is a tidied candidate, carries the
    pseudo-angles of exactly that position, and passed the read-back filter of the reference / qaz / naz constraint -/
theorem filter_sound (ub : UBIn ℝ) (mode : Mode ℝ) (hkl : V3 ℝ) (wl : ℝ) (l : List (Pos ℝ × VAngles ℝ))
    (h : hklToPosition ub mode hkl wl = .ok l) :
    ∀ pv ∈ l, passesFilter pv.2 mode.refCon mode.detCon mode.nazCon = true ∧ virtualAngles ub pv.1 = .ok pv.2 ∧
      ∃ cands s, candidates ub mode hkl wl = .ok cands ∧ s ∈ cands ∧ pv.1 = tidy mode.info (solToPos s) := fun pv hpv =>
  let ⟨_, cands, hc, hall⟩ := hklToPosition_ok h
  let ⟨hf, hva, s, hs, e⟩ := hall pv hpv
  ⟨hf, hva, cands, s, hc, hs, e⟩

/-- `get_position` succeeds only with the list of `__calc_hkl_to_position`, every member of which passed the hkl read-back -/
theorem getPosition_ok {ub : UBIn ℝ} {mode : Mode ℝ} {hkl : V3 ℝ} {wl : ℝ} {l : List (Pos ℝ × VAngles ℝ)}
    (h : getPosition ub mode hkl wl = .ok l) :
    hklToPosition ub mode hkl wl = .ok l ∧ ∀ pv ∈ l, hklMatches (getHkl ub pv.1 wl) hkl = true := by
  unfold getPosition at h
  obtain ⟨pairs, hp, h⟩ := bind_ok_inv h
  obtain ⟨us, hus, h⟩ := bind_ok_inv h
  obtain ⟨_, _, h⟩ := bind_ok_inv h
  cases h
  refine ⟨hp, fun ⟨p, va⟩ hpv => ?_⟩
  obtain ⟨u, hu⟩ := mapM_ok_all _ _ hus _ hpv
  obtain ⟨hm, -⟩ | ⟨-, hu⟩ := ite_eq_iff.mp hu
  · exact hm
  · cases hu

/-- **C02 (axes + filtered pseudo-angles), all modes**: every element of the list returned by `get_position` has each
    constrained sample / detector axis at the requested value and passed the read-back filter for the reference, qaz
    and naz constraints -/
theorem getPosition_honours_axes (ub : UBIn ℝ) (mode : Mode ℝ) (hkl : V3 ℝ) (wl : ℝ) (l : List (Pos ℝ × VAngles ℝ))
    (h : getPosition ub mode hkl wl = .ok l) :
    ∀ pv ∈ l, PosHonours mode pv.1 ∧ passesFilter pv.2 mode.refCon mode.detCon mode.nazCon = true := by
  intro pv hpv
  obtain ⟨hf, _, cands, s, hc, hs, hps⟩ := filter_sound ub mode hkl wl l (getPosition_ok h).1 pv hpv
  exact ⟨hps ▸ tidy_preserves_constrained mode s (candidates_honour ub mode hkl wl cands hc s hs), hf⟩
end
end C02
