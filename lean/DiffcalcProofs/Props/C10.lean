import DiffcalcProofs.Lemmas.ConsCount
import DiffcalcProofs.RealScalar
/-!
# C10 — the constraint set obeys its capacity rules through every history
# C17 (constraint part) — a rejected update changes nothing

Model: `Diffcalc/Model/Cons.lean` (hand, tie H: random histories through the real `Constraints`, state compared after
every operation).  All theorems are for every state / every finite history; the value type is arbitrary except
for the read-back theorems, which are at the real-number reading.
-/
namespace C10

open CState

variable {α : Type}

/-! ## capacity invariant -/

/-- `s'` is `s` with some constraints switched off (`upd _ none`, `clearCat`): both invariants of the
    constraint set, the capacity rules here and `WellTyped` (C10Bulk), pass from `s` to `s'` -/
def Sub (s' s : CState α) : Prop := ∀ m, s' m = none ∨ s' m = s m

theorem sub_upd_none (s : CState α) (n : Name) : Sub (s.upd n none) s := fun m => by
  unfold upd; split <;> simp

theorem sub_clearCat (s : CState α) (c : Cat) : Sub (clearCat s c) s := fun m => by
  unfold clearCat; split <;> simp

theorem Sub.active {s' s : CState α} (h : Sub s' s) (m : Name) (hm : s'.active m = true) : s.active m = true := by
  unfold CState.active at hm ⊢
  rcases h m with e | e <;> simp_all

theorem inv_of_sub {s' s : CState α} (hs : Sub s' s) (h : s.Inv) : s'.Inv :=
  ⟨(count_mono hs.active).trans h.1, (countCat_mono hs.active _).trans h.2.1, (countCat_mono hs.active _).trans h.2.2⟩

theorem inv_init : (CState.init : CState α).Inv := by
  refine ⟨?_, ?_, ?_⟩ <;> simp [count_init, countCat_init]

theorem inv_upd_none (s : CState α) (n : Name) (h : s.Inv) : (s.upd n none).Inv :=
  inv_of_sub (sub_upd_none s n) h

theorem inv_clearCat (s : CState α) (c : Cat) (h : s.Inv) (hk : s.countCat c = 1) :
    (clearCat s c).Inv ∧ ((clearCat s c).countCat c < maxCat c ∧ (clearCat s c).count < 3) := by
  refine ⟨inv_of_sub (sub_clearCat s c) h, ?_, ?_⟩
  · rw [countCat_clearCat, if_pos rfl]; exact maxCat_pos c
  · have := count_clearCat s c
    have := h.1
    omega

theorem inv_activate (s : CState α) (n : Name) (v : Val α) (h : s.Inv)
    (hslot : s.active n = true ∨ (s.countCat n.cat < maxCat n.cat ∧ s.count < 3)) :
    (s.upd n (some v)).Inv := by
  rw [inv_iff] at h ⊢
  have a := count_upd s n (some v)
  have b := countCat_upd s n (some v)
  simp only [Option.isSome_some, Bool.true_and, if_true, Bool.and_eq_true, beq_iff_eq] at a b
  rcases hslot with hact | ⟨hk, hc⟩
  · -- an active constraint is assigned again: no count moves
    simp only [hact, if_true, true_and] at a b
    exact ⟨by omega, fun c => by have := b c; have := h.2 c; omega⟩
  · -- a new one adds one to the total and to its own category at most, where there was room
    refine ⟨by omega, fun c => ?_⟩
    have bc := b c
    have := h.2 c
    by_cases e : n.cat = c
    · rw [if_pos e] at bc; subst e; omega
    · rw [if_neg e] at bc; omega

/-- the slot decision of `_set_constraint` in terms of the counts -/
theorem slot_eq (s : CState α) (n : Name) : s.slot n =
    if s.active n = true ∨ (s.countCat n.cat < maxCat n.cat ∧ s.count < 3) then .free
    else if s.countCat n.cat = 1 then .replace else .refuse := by
  unfold slot
  simp only [ite_or, Bool.and_eq_true, decide_eq_true_eq]
  congr 2
  -- left: the code's tests `k > 1`, `k = 0` on the count `k` of the category; right: `k = 1`; the combinations either agree or cannot occur
  split_ifs <;> first | rfl | omega

theorem slot_free (s : CState α) (n : Name) (h : s.slot n = .free) :
    s.active n = true ∨ (s.countCat n.cat < maxCat n.cat ∧ s.count < 3) := by
  rw [slot_eq] at h; split_ifs at h; assumption

theorem slot_replace (s : CState α) (n : Name) (h : s.slot n = .replace) : s.countCat n.cat = 1 := by
  rw [slot_eq] at h; split_ifs at h; assumption

variable [Scalar α]

theorem set_of_ok (s : CState α) (n : Name) (a : Arg α) (v : Val α) (hv : setValue n a = .ok v) :
    s.set n a =
      match s.slot n with
      | .refuse => (s, .error .dce)
      | .free => (s.upd n (some v), .ok ())
      | .replace => ((clearCat s n.cat).upd n (some v), .ok ()) := by
  unfold CState.set
  split
  · cases hv
  · cases hv
  · simp only [hv]; rfl

/-- the shapes of the result of an assignment of something other than `None` / `False` -/
theorem set_cases (s : CState α) (n : Name) (a : Arg α) (hn : a ≠ .none) (hf : a ≠ .fals) :
    (s.slot n = .refuse ∧ s.set n a = (s, .error .dce)) ∨
    (∃ e, s.slot n ≠ .refuse ∧ setValue n a = .error e ∧ s.set n a = (s, .error e)) ∨
    (∃ v, s.slot n = .free ∧ setValue n a = .ok v ∧ s.set n a = (s.upd n (some v), .ok ())) ∨
    (∃ v, s.slot n = .replace ∧ setValue n a = .ok v ∧ s.set n a = ((clearCat s n.cat).upd n (some v), .ok ())) := by
  unfold CState.set
  split
  · contradiction
  · contradiction
  cases s.slot n with
  | refuse => exact .inl ⟨rfl, rfl⟩
  | free =>
    cases setValue n a with
    | error e => exact .inr (.inl ⟨e, nofun, rfl, rfl⟩)
    | ok v => exact .inr (.inr (.inl ⟨v, rfl, rfl, rfl⟩))
  | replace =>
    cases setValue n a with
    | error e => exact .inr (.inl ⟨e, nofun, rfl, rfl⟩)
    | ok v => exact .inr (.inr (.inr ⟨v, rfl, rfl, rfl⟩))

/-- what an assignment does to the state, for a property `P` of states: nothing, a deactivation, or the storing of a
    validated value in a free slot or in the slot of the one constraint of its category -/
theorem set_preserves (P : CState α → Prop) (s : CState α) (n : Name) (a : Arg α) (h : P s) (hoff : P (s.upd n none))
    (hfree : ∀ v, setValue n a = .ok v → s.slot n = .free → P (s.upd n (some v)))
    (hrepl : ∀ v, setValue n a = .ok v → s.slot n = .replace → P ((clearCat s n.cat).upd n (some v))) :
    P (s.set n a).1 := by
  by_cases hn : a = .none
  · subst hn; exact hoff
  by_cases hf : a = .fals
  · subst hf; exact hoff
  rcases set_cases s n a hn hf with ⟨_, e⟩ | ⟨_, _, _, e⟩ | ⟨v, hs, hv, e⟩ | ⟨v, hs, hv, e⟩ <;> rw [e]
  exacts [h, h, hfree v hv hs, hrepl v hv hs]

/-- one assignment keeps the capacity rules, whatever is assigned -/
theorem inv_set (s : CState α) (n : Name) (a : Arg α) (h : s.Inv) : (s.set n a).1.Inv :=
  set_preserves _ s n a h (inv_upd_none s n h) (fun v _ hs => inv_activate s n v h (slot_free s n hs)) fun v _ hs =>
    have ⟨hclr, hroom⟩ := inv_clearCat s n.cat h (slot_replace s n hs)
    inv_activate _ n v hclr (Or.inr hroom)

section Preserved
variable (P : CState α → Prop) (hset : ∀ s n a, P s → P (s.set n a).1)
include hset

theorem bulkLoop_preserves : ∀ items (s s' : CState α), P s → bulkLoop s items = .ok s' → P s'
  | [], s, s', h, hr => by cases hr; exact h
  | (none, _) :: _, _, _, _, hr => by cases hr
  | (some n, a) :: rest, s, s', h, hr => by
    have hi := hset s n a h
    simp only [bulkLoop] at hr
    split at hr
    · rename_i s1 heq; rw [heq] at hi; exact bulkLoop_preserves rest s1 s' hi hr
    · cases hr

/-- what every single assignment keeps and the empty set has, every operation keeps
    (`del` is the assignment of `None`, the bulk setters assign one by one from the empty set) -/
theorem step_preserves (h0 : P init) (s : CState α) (op : COp α) (h : P s) : P (s.step op).1 := by
  cases op with
  | set n a => exact hset s n a h
  | del n => exact hset s n .none h
  | clear => exact h0
  | bulk items =>
    simp only [CState.step, setBulk]
    split
    · rename_i s' heq; exact bulkLoop_preserves P hset items _ s' h0 heq
    · exact h

end Preserved

/-- every operation keeps the capacity rules -/
theorem inv_step (s : CState α) (op : COp α) (h : s.Inv) : (s.step op).1.Inv :=
  step_preserves _ inv_set inv_init s op h

theorem inv_setBulk (s : CState α) (items : List (Item α)) (h : s.Inv) : (s.setBulk items).1.Inv :=
  inv_step s (.bulk items) h

/-- **C10, capacity**: after any finite history from the empty set (or from any state that obeys the rules)
    at most three constraints are active, at most one detector and at most one reference constraint -/
theorem inv_history (ops : List (COp α)) (s : CState α) (h : s.Inv) :
    (ops.foldl (fun st op => (st.step op).1) s).Inv :=
  List.foldlRecOn ops _ h fun s hs op _ => inv_step s op hs

theorem c10_capacity (ops : List (COp α)) :
    let s := ops.foldl (fun st op => (st.step op).1) (CState.init : CState α)
    s.count ≤ 3 ∧ s.countCat .det ≤ 1 ∧ s.countCat .ref ≤ 1 :=
  inv_history ops _ inv_init

/-! ## a rejected update changes nothing (C17, constraint manager) -/

theorem set_error_unchanged (s : CState α) (n : Name) (a : Arg α) (e : CErr)
    (h : (s.set n a).2 = .error e) : (s.set n a).1 = s := by
  -- every branch of `set` returns either the state it was given or `.ok`
  revert h
  unfold CState.set
  (repeat' split) <;> intro h <;> first | rfl | cases h

theorem setBulk_error_unchanged (s : CState α) (items : List (Item α)) (e : CErr)
    (h : (s.setBulk items).2 = .error e) : (s.setBulk items).1 = s := by
  revert h
  unfold setBulk
  split
  · intro h; cases h
  · intro _; rfl

/-- **C17 (constraints)**: whenever an operation of the constraint manager raises, the state is unchanged -/
theorem step_error_unchanged (s : CState α) (op : COp α) (e : CErr)
    (h : (s.step op).2 = .error e) : (s.step op).1 = s := by
  cases op with
  | set n a => exact set_error_unchanged s n a e h
  | bulk items => exact setBulk_error_unchanged s items e h
  | _ => cases h

/-! ## deactivation is exact -/

theorem deactivate_exact (s : CState α) (n m : Name) :
    ((s.set n .none).1 m = if m = n then none else s m) ∧
    ((s.set n .fals).1 m = if m = n then none else s m) ∧
    ((s.del n) m = if m = n then none else s m) ∧
    (s.set n .none).2 = .ok () ∧ (s.set n .fals).2 = .ok () := by
  simp [CState.set, CState.del, upd]

/-! ## replacement policy -/

/-- a new constraint with a valid value and no free slot is accepted exactly when its category holds exactly one
    constraint: that one is deactivated, the new value is stored, everything else is kept; with none or with two
    and more of its category it is refused and nothing changes -/
theorem replace_policy (s : CState α) (n : Name) (a : Arg α) (v : Val α)
    (hv : setValue n a = .ok v) (hna : s.active n = false)
    (hfull : ¬ (s.countCat n.cat < maxCat n.cat ∧ s.count < 3)) :
    (s.countCat n.cat = 1 →
        (s.set n a).2 = .ok () ∧ ∀ m, (s.set n a).1 m = if m = n then some v else if m.cat = n.cat then none else s m) ∧
    (s.countCat n.cat ≠ 1 → (s.set n a).2 = .error .dce ∧ (s.set n a).1 = s) := by
  rw [set_of_ok s n a v hv, slot_eq, if_neg (by simp [hna, hfull])]
  exact ⟨fun h1 => by rw [if_pos h1]; exact ⟨rfl, fun m => rfl⟩, fun h1 => by rw [if_neg h1]; exact ⟨rfl, rfl⟩⟩

/-- a new constraint with a valid value and a free slot (or re-assignment of an active one) is simply stored -/
theorem accept_free (s : CState α) (n : Name) (a : Arg α) (v : Val α)
    (hv : setValue n a = .ok v)
    (hslot : s.active n = true ∨ (s.countCat n.cat < maxCat n.cat ∧ s.count < 3)) :
    (s.set n a).2 = .ok () ∧ (s.set n a).1 = s.upd n (some v) := by
  rw [set_of_ok s n a v hv, slot_eq, if_pos hslot]; exact ⟨rfl, rfl⟩

/-! ## read-back (real-number reading) -/

/-- whatever is accepted is what `_set_value` validated, stored under the assigned name -/
theorem set_ok_stored (s : CState α) (n : Name) (a : Arg α) (hn : a ≠ .none) (hf : a ≠ .fals)
    (h : (s.set n a).2 = .ok ()) : ∃ v, setValue n a = .ok v ∧ (s.set n a).1 n = some v := by
  rcases set_cases s n a hn hf with ⟨_, e⟩ | ⟨_, _, _, e⟩ | ⟨v, _, hv, e⟩ | ⟨v, _, hv, e⟩ <;> rw [e] at h ⊢
  · cases h
  · cases h
  · exact ⟨v, hv, if_pos rfl⟩
  · exact ⟨v, hv, if_pos rfl⟩

/-- **C10, read-back**: an accepted numeric assignment reads back as the assigned value (degrees);
    an accepted `True` reads back as `True` -/
theorem readback_num (s : CState ℝ) (n : Name) (x : ℝ) (h : (s.set n (.num x)).2 = .ok ()) :
    (s.set n (.num x)).1.get n = .num x := by
  obtain ⟨v, hv, hs⟩ := set_ok_stored s n (.num x) nofun nofun h
  simp only [setValue] at hv
  split at hv <;> cases hv
  simp [CState.get, hs]

theorem readback_true (s : CState ℝ) (n : Name) (h : (s.set n .tru).2 = .ok ()) :
    (s.set n .tru).1.get n = .tru := by
  obtain ⟨v, hv, hs⟩ := set_ok_stored s n .tru nofun nofun h
  simp only [setValue] at hv
  split at hv <;> cases hv
  simp [CState.get, hs]

/-! ## non-vacuity -/
example : ∃ s : CState ℝ, s.Inv ∧ s.count = 3 ∧ (s.set .nu (.num 5)).2 = .ok () ∧ (s.set .mu .tru).2 = .error .dce := by
  refine ⟨((CState.init.upd .delta (some (.num 1))).upd .alpha (some (.num 2))).upd .mu (some (.num 3)), ?_, ?_, rfl, rfl⟩
  · unfold CState.Inv; decide
  · decide

end C10
