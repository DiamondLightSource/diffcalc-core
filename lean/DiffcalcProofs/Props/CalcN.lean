import Diffcalc.Solver.Calc
import DiffcalcProofs.Props.C07
import DiffcalcProofs.Lemmas.Small
/-!
# `_calc_N`, and the angle `__calc_nphi_alpha_tau` hands on

`_calc_N` on its generic branch returns the right-handed triad `C07.triadMat` of its two normalised arguments (`calcN_eq`; as a statement about
a result, `calcN_triadMat`); that it is a proper rotation with the scattering direction as first column (`calcN_generic`) is read off the triad.
`calcN_ok` hands the three facts to a proof that has to run the solver.
-/
namespace C03
open M3 Solver Scalar PyOps C01
noncomputable section

/-- `angle_between_vectors`, read back in radians: the cosine is the dot product of the two directions -/
theorem angleBetween_cos (x y : V3 ℝ) (t : ℝ) (h : angleBetween x y = .ok t) :
    Real.cos (Scalar.toRad t) = V3.dot (V3.unit x) (V3.unit y) := by
  rw [angleBetween_eq] at h
  cases h
  rw [scalar_toRad_toDeg, cos_arccos_of_abs_le (V3.abs_dot_unit_le_one x y)]

/-- the triad construction commutes with proper rotations -/
theorem triadMat_rot {R : M3 ℝ} (hR : IsRot R) (a b : V3 ℝ) :
    C07.triadMat (M3.mulVec R a) (M3.mulVec R b) = M3.mul R (C07.triadMat a b) := C07.triadMat_rot hR a b

/-- `_calc_N` on its generic branch (reference direction not within 1e-7 of the scattering direction) returns the triad of the two normalised vectors -/
theorem calcN_eq (Q0 n0 : V3 ℝ) (hQ : 0 < V3.norm Q0) (hn : 0 < V3.norm n0)
    (hx : (1e-7 : ℝ) < V3.norm (V3.cross (V3.unit Q0) (V3.unit n0))) :
    calcN Q0 n0 = .ok (C07.triadMat (V3.unit Q0) (V3.unit n0)) := by
  -- the test `is_small(sin(angle))` is the test `|Q × n| ≤ 1e-7`
  have hnot : Scalar.isSmall (Real.sin (Real.arccos (V3.dot (V3.unit (V3.unit Q0)) (V3.unit (V3.unit n0))))) = false := by
    rw [V3.unit_unit hQ, V3.unit_unit hn, V3.sin_arccos_dot (V3.dot_unit_self hQ) (V3.dot_unit_self hn), isSmall_real,
      abs_of_nonneg (V3.norm_nonneg _)]
    exact decide_eq_false (not_le.mpr hx)
  simp only [calcN, V3.normalised_eq_unit, angleBetween_eq, bind, Except.bind, scalar_toRad_toDeg, rs_sin, hnot,
    Bool.false_eq_true, if_false, pure, Except.pure]
  rw [C07.triadMat, V3.unit_unit hQ]

theorem calcN_triadMat (Q0 n0 : V3 ℝ) (N : M3 ℝ) (hQ : 0 < V3.norm Q0) (hn : 0 < V3.norm n0)
    (hx : (1e-7 : ℝ) < V3.norm (V3.cross (V3.unit Q0) (V3.unit n0)))
    (h : calcN Q0 n0 = .ok N) : N = C07.triadMat (V3.unit Q0) (V3.unit n0) :=
  Except.ok.inj (h.symm.trans (calcN_eq Q0 n0 hQ hn hx))

/-- the angle `__calc_nphi_alpha_tau` hands on, exactly: between the scattering vector and the one of the calculator's two vectors it returns -/
theorem nphiAlphaTau_tau_eq (ub : UBIn ℝ) (ref : RefCon ℝ) (h : V3 ℝ) (theta : ℝ) (n : V3 ℝ) (alpha tau : ℝ)
    (hnat : nphiAlphaTau ub ref h theta = .ok (n, alpha, tau)) :
    tau = Real.arccos (V3.dot (V3.smul (1 / V3.norm h) h) (V3.smul (1 / V3.norm n) n)) := by
  unfold nphiAlphaTau at hnat
  rw [V3.smul_inv_norm, V3.smul_inv_norm]
  simp only [angleBetween_eq, bind, Except.bind, scalar_toRad_toDeg] at hnat
  -- a branch either raises or returns `ub.n_phi` with `tau`, or `ub.surf_nphi` with `surf_tau`: the vector next to the angle
  -- `angle_between_vectors` gave for it.  Split down to every `pure`; there the claim is `rfl`
  repeat' split at hnat
  all_goals cases hnat
  all_goals rfl

/-- what `__calc_nphi_alpha_tau` hands on: one of the calculator's two vectors together with the angle it makes with the scattering vector -/
theorem nphiAlphaTau_tau (ub : UBIn ℝ) (ref : RefCon ℝ) (h : V3 ℝ) (theta : ℝ) (n : V3 ℝ) (alpha tau : ℝ)
    (hnat : nphiAlphaTau ub ref h theta = .ok (n, alpha, tau)) :
    Real.cos tau = V3.dot (V3.unit h) (V3.unit n) := by
  have habs := V3.abs_dot_unit_le_one h n
  rw [nphiAlphaTau_tau_eq ub ref h theta n alpha tau hnat, V3.smul_inv_norm, V3.smul_inv_norm, cos_arccos_of_abs_le habs]

end
end C03

namespace C01
open M3 Solver
/-- **`_calc_N`, generic branch** (reference direction not within 1e-7 of the scattering direction): the result is a proper rotation whose first
    column is the unit scattering direction -/
theorem calcN_generic (Q0 n0 : V3 ℝ) (N : M3 ℝ) (hQ : 0 < V3.norm Q0) (hn : 0 < V3.norm n0)
    (hx : (1e-7 : ℝ) < V3.norm (V3.cross (V3.unit Q0) (V3.unit n0)))
    (h : calcN Q0 n0 = .ok N) :
    IsRot N ∧ (⟨N.a00, N.a10, N.a20⟩ : V3 ℝ) = V3.unit Q0 := by
  rw [C03.calcN_triadMat Q0 n0 N hQ hn hx h]
  exact ⟨C07.isRot_triadMat (V3.norm_pos_of_norm_one (V3.norm_unit Q0 hQ)) (lt_trans (by norm_num) hx),
    by simp only [C07.triadMat, M3.ofCols, V3.unit_unit hQ]⟩

/-- what a proof that follows the solver through `_calc_N` on its generic branch needs of it, in one statement -/
theorem calcN_ok (Q0 n0 : V3 ℝ) (hQ : 0 < V3.norm Q0) (hn : 0 < V3.norm n0)
    (hx : (1e-7 : ℝ) < V3.norm (V3.cross (V3.unit Q0) (V3.unit n0))) :
    ∃ N, calcN Q0 n0 = .ok N ∧ N = C07.triadMat (V3.unit Q0) (V3.unit n0) ∧ IsRot N ∧ (⟨N.a00, N.a10, N.a20⟩ : V3 ℝ) = V3.unit Q0 :=
  have h := C03.calcN_eq Q0 n0 hQ hn hx
  ⟨_, h, rfl, calcN_generic Q0 n0 _ hQ hn hx h⟩
end C01
