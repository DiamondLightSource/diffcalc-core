/-! Histories of a state machine are left folds of its step function: the one induction they all share. -/

/-- An assertion about a state and the operations still to come that every step carries over
    (from `op :: ops` before the step to `ops` after it) holds at the end of the history.
    With `P` ignoring its second argument this is `List.foldlRecOn`. -/
theorem List.foldl_induct {σ ι : Type} (f : σ → ι → σ) (P : σ → List ι → Prop)
    (step : ∀ s op ops, P s (op :: ops) → P (f s op) ops) :
    ∀ ops s, P s ops → P (ops.foldl f s) []
  | [], _, h => h
  | op :: ops, s, h => foldl_induct f P step ops (f s op) (step s op ops h)
