import Diffcalc.Model.RefList
import DiffcalcProofs.Lemmas.History
import Mathlib.Tactic.Linarith
import Mathlib.Data.List.Basic
/-!
# C18 — reflection and orientation lists are faithful 1-based, tag-addressable sequences
(and the list part of C17: a rejected edit changes nothing)

Model: `Diffcalc/Model/RefList.lean` (hand, tie H: random histories through `UBCalculation`'s wrappers on both
lists, full list compared after every operation).  The statements are the plain-sequence laws, for every list
and every record type.
-/
namespace C18

open RefList

variable {ρ : Type} (tagOf : ρ → Option String)

/-! ## addressing -/

/-- Python's `list.index` is core's `List.findIdx?` -/
theorem findIdx?_eq (p : ρ → Bool) (l : List ρ) : findIdx? p l = l.findIdx? p := by
  induction l with
  | nil => rfl
  | cons x xs ih => rw [findIdx?, List.findIdx?_cons, ih]

theorem findIdx?_spec (p : ρ → Bool) : ∀ (l : List ρ) (k : Nat), findIdx? p l = some k →
    k < l.length ∧ (∃ r, l[k]? = some r ∧ p r = true) ∧ ∀ j, j < k → ∀ r, l[j]? = some r → p r = false := by
  intro l k h
  obtain ⟨hk, hp, hlt⟩ := List.findIdx?_eq_some_iff_getElem.mp (findIdx?_eq p l ▸ h)
  refine ⟨hk, ⟨l[k], List.getElem?_eq_getElem hk, hp⟩, fun j hj r hr => ?_⟩
  obtain ⟨_, rfl⟩ := List.getElem?_eq_some_iff.mp hr
  simpa using hlt j hj

theorem findIdx?_none (p : ρ → Bool) : ∀ (l : List ρ), findIdx? p l = none → ∀ r ∈ l, p r = false :=
  fun l h => List.findIdx?_eq_none_iff.mp (findIdx?_eq p l ▸ h)

theorem pyPos_natCast (n k : Nat) : pyPos n (k : Int) = if k < n then some k else none := by
  simp [pyPos]

theorem pyPos_lt {n : Nat} {k : Int} {p : Nat} (h : pyPos n k = some p) : p < n := by
  unfold pyPos at h
  split_ifs at h <;> cases h <;> omega

/-- a tag is looked up once; what `list.index` returns is always in range -/
theorem locate_tag_eq (l : List ρ) (t : String) : locate tagOf l (.tag t) =
    match findIdx? (fun r => tagOf r == some t) l with | some k => .ok k | none => .error .value := by
  simp only [locate, resolve]
  cases hf : findIdx? (fun r => tagOf r == some t) l with
  | none => rfl
  | some k => simp only [pyPos_natCast, if_pos (findIdx?_spec _ l k hf).1]

theorem locate_eq_ok {l : List ρ} {ix : Idx} {p : Nat} :
    locate tagOf l ix = .ok p ↔ ∃ k, resolve tagOf l ix = .ok k ∧ pyPos l.length k = some p := by
  unfold locate
  cases resolve tagOf l ix with
  | error e => simp
  | ok k => cases h : pyPos l.length k <;> simp [h]

/-- the number `k + 1` addresses position `k`, if there is one -/
theorem locate_succ (l : List ρ) (k : Nat) :
    locate tagOf l (.num ((k : Int) + 1)) = if k < l.length then .ok k else .error .index := by
  simp only [locate, resolve, Int.add_sub_cancel, pyPos_natCast]
  split_ifs <;> rfl

/-- a 1-based index in range addresses position `i - 1` -/
theorem locate_num (l : List ρ) (i : Nat) (h1 : 1 ≤ i) (h2 : i ≤ l.length) :
    locate tagOf l (.num i) = .ok (i - 1) := by
  obtain ⟨k, rfl⟩ := Nat.exists_eq_add_one_of_ne_zero (Nat.one_le_iff_ne_zero.mp h1)
  rw [Nat.cast_succ, locate_succ, if_pos (Nat.lt_of_succ_le h2), Nat.add_sub_cancel]

/-- an index above `n` raises IndexError -/
theorem locate_above (l : List ρ) (i : Nat) (h : l.length < i) :
    locate tagOf l (.num i) = .error .index := by
  obtain ⟨k, rfl⟩ := Nat.exists_eq_add_one_of_ne_zero (Nat.ne_zero_of_lt h)
  rw [Nat.cast_succ, locate_succ, if_neg (Nat.not_lt.mpr (Nat.le_of_lt_succ h))]

/-- a tag addresses the first record carrying it; an unknown tag raises ValueError -/
theorem locate_tag (l : List ρ) (t : String) :
    (∀ k, locate tagOf l (.tag t) = .ok k →
        (∃ r, l[k]? = some r ∧ tagOf r = some t) ∧ (∀ j, j < k → ∀ r, l[j]? = some r → tagOf r ≠ some t)
        ∧ locate tagOf l (.num ((k:Int) + 1)) = .ok k) ∧
    ((∀ r ∈ l, tagOf r ≠ some t) → locate tagOf l (.tag t) = .error .value) ∧
    (locate tagOf l (.tag t) ≠ .error .index) := by
  rw [locate_tag_eq]
  cases hf : findIdx? (fun r => tagOf r == some t) l with
  | none => exact ⟨fun k hk => (nomatch hk), fun _ => rfl, by simp⟩
  | some k' =>
    obtain ⟨hlt, ⟨r, hr, hp⟩, hfirst⟩ := findIdx?_spec _ l k' hf
    refine ⟨?_, fun hall => absurd (by simpa using hp) (hall r (List.mem_of_getElem? hr)), by simp⟩
    rintro k ⟨rfl⟩
    refine ⟨⟨r, hr, by simpa using hp⟩, fun j hj r' hr' => by simpa using hfirst j hj r' hr', ?_⟩
    rw [locate_succ, if_pos hlt]

theorem locate_lt (l : List ρ) (ix : Idx) (p : Nat) (h : locate tagOf l ix = .ok p) : p < l.length := by
  obtain ⟨k, _, hk⟩ := (locate_eq_ok tagOf).mp h
  exact pyPos_lt hk

/-! ## the sequence laws -/

/-- `add` appends: length grows by one, the new record is last, earlier records are untouched -/
theorem add_appends (l : List ρ) (r : ρ) :
    (step tagOf l (.add r)).1 = l ++ [r] ∧
    (step tagOf (l ++ [r]) (.get (.num (l.length + 1 : Nat)))).2 = .record r := by
  refine ⟨rfl, ?_⟩
  have := locate_num tagOf (l ++ [r]) (l.length + 1) (by omega) (by simp)
  simp only [step, this, Nat.add_sub_cancel, List.getElem?_concat_length]

/-- `get` returns exactly the stored record at the addressed position and does not change the list -/
theorem get_returns (l : List ρ) (ix : Idx) (p : Nat) (h : locate tagOf l ix = .ok p) :
    ∃ r, l[p]? = some r ∧ step tagOf l (.get ix) = (l, .record r) := by
  have hp := locate_lt tagOf l ix p h
  exact ⟨l[p], List.getElem?_eq_getElem hp, by simp only [step, h, List.getElem?_eq_getElem hp]⟩

/-- `edit` replaces in place -/
theorem edit_replaces (l : List ρ) (ix : Idx) (r : ρ) (p : Nat) (h : locate tagOf l ix = .ok p) :
    step tagOf l (.edit ix r) = (l.set p r, .unit) ∧ (l.set p r).length = l.length ∧
    (l.set p r)[p]? = some r ∧ ∀ j, j ≠ p → (l.set p r)[j]? = l[j]? :=
  ⟨by simp only [step, h], List.length_set, List.getElem?_set_self (locate_lt tagOf l ix p h),
    fun _ hj => List.getElem?_set_ne (Ne.symm hj)⟩

/-- `del` closes the gap -/
theorem del_closes_gap (l : List ρ) (ix : Idx) (p : Nat) (h : locate tagOf l ix = .ok p) :
    step tagOf l (.del ix) = (l.eraseIdx p, .unit) ∧ (l.eraseIdx p).length + 1 = l.length ∧
    (∀ j, j < p → (l.eraseIdx p)[j]? = l[j]?) ∧ (∀ j, p ≤ j → (l.eraseIdx p)[j]? = l[j + 1]?) :=
  ⟨by simp only [step, h], List.length_eraseIdx_add_one (locate_lt tagOf l ix p h),
    fun _ hj => List.getElem?_eraseIdx_of_lt hj, fun _ hj => List.getElem?_eraseIdx_of_ge hj⟩

/-- `swap` exchanges two records and nothing else -/
theorem swap_exchanges (l : List ρ) (i j : Idx) (p q : Nat)
    (hi : locate tagOf l i = .ok p) (hj : locate tagOf l j = .ok q) :
    ∃ x y, l[p]? = some x ∧ l[q]? = some y ∧
      step tagOf l (.swap i j) = ((l.set p y).set q x, .unit) ∧
      ((l.set p y).set q x).length = l.length ∧
      ((l.set p y).set q x)[q]? = some x ∧ (p ≠ q → ((l.set p y).set q x)[p]? = some y) ∧
      ∀ k, k ≠ p → k ≠ q → ((l.set p y).set q x)[k]? = l[k]? := by
  have hp := locate_lt tagOf l i p hi
  have hq := locate_lt tagOf l j q hj
  have hx := List.getElem?_eq_getElem hp
  have hy := List.getElem?_eq_getElem hq
  refine ⟨l[p], l[q], hx, hy, ?_, by simp only [List.length_set], List.getElem?_set_self (by rwa [List.length_set]),
    fun hne => ?_, fun k hkp hkq => ?_⟩
  · obtain ⟨a, hra, hpa⟩ := (locate_eq_ok tagOf).mp hi
    obtain ⟨b, hrb, hpb⟩ := (locate_eq_ok tagOf).mp hj
    simp only [step, hra, hrb, hpa, hpb, hx, hy]
  · rw [List.getElem?_set_ne (Ne.symm hne), List.getElem?_set_self hp]
  · rw [List.getElem?_set_ne (Ne.symm hkq), List.getElem?_set_ne (Ne.symm hkp)]

/-- `len` and the tag-to-number lookup -/
theorem len_tagNum (l : List ρ) (t : String) :
    step tagOf l .len = (l, .nat l.length) ∧
    (∀ k, locate tagOf l (.tag t) = .ok k → step tagOf l (.tagNum t) = (l, .nat (k + 1))) ∧
    ((∀ r ∈ l, tagOf r ≠ some t) → step tagOf l (.tagNum t) = (l, .err .value)) := by
  rw [locate_tag_eq]
  cases hf : findIdx? (fun r => tagOf r == some t) l with
  | none => exact ⟨rfl, fun k hk => (nomatch hk), fun _ => by simp [step, hf]⟩
  | some k' =>
    obtain ⟨_, ⟨r, hr, hp⟩, _⟩ := findIdx?_spec _ l k' hf
    refine ⟨rfl, ?_, fun hall => absurd (by simpa using hp) (hall r (List.mem_of_getElem? hr))⟩
    rintro k ⟨rfl⟩
    simp [step, hf]

/-! ## errors leave the list unchanged (C18 last clause, C17 for list edits) -/

theorem step_error_unchanged (l : List ρ) (op : Op ρ) (e : LErr)
    (h : (step tagOf l op).2 = .err e) : (step tagOf l op).1 = l := by
  -- every branch of `step` returns either the list it was given or a result that is no error
  revert h
  unfold step
  (repeat' split) <;> intro h <;> first | rfl | cases h

/-- an index above `n` raises IndexError, an unknown tag raises ValueError — for `get`, `edit` and `del` -/
theorem bad_address (l : List ρ) (r : ρ) :
    (∀ i : Nat, l.length < i →
      (step tagOf l (.get (.num i))).2 = .err .index ∧ (step tagOf l (.edit (.num i) r)).2 = .err .index ∧
      (step tagOf l (.del (.num i))).2 = .err .index) ∧
    (∀ t, (∀ r ∈ l, tagOf r ≠ some t) →
      (step tagOf l (.get (.tag t))).2 = .err .value ∧ (step tagOf l (.edit (.tag t) r)).2 = .err .value ∧
      (step tagOf l (.del (.tag t))).2 = .err .value) := by
  constructor
  · intro i hi
    have := locate_above tagOf l i hi
    simp [step, this]
  · intro t ht
    have := (locate_tag tagOf l t).2.1 ht
    simp [step, this]

/-- the records offered to a history by `add` / `edit` -/
def inputs : List (Op ρ) → List ρ
  | [] => []
  | .add r :: ops => r :: inputs ops
  | .edit _ r :: ops => r :: inputs ops
  | _ :: ops => inputs ops

theorem step_mem (l : List ρ) (op : Op ρ) (r : ρ) (h : r ∈ (step tagOf l op).1) : r ∈ l ∨ r ∈ inputs [op] := by
  cases op with
  | add r' => exact List.mem_append.mp h
  | edit ix r' =>
    simp only [step] at h
    split at h
    · exact (List.mem_or_eq_of_mem_set h).imp_right List.mem_singleton.mpr
    · exact Or.inl h
  | del ix =>
    simp only [step] at h
    split at h
    · exact Or.inl (List.mem_of_mem_eraseIdx h)
    · exact Or.inl h
  | swap i j =>
    simp only [step] at h
    (repeat' split at h) <;> (try exact Or.inl h)
    -- the two records written were read from `l`
    rename_i x y hx hy
    rcases List.mem_or_eq_of_mem_set h with h | rfl
    · rcases List.mem_or_eq_of_mem_set h with h | rfl
      exacts [Or.inl h, Or.inl (List.mem_of_getElem? hy)]
    · exact Or.inl (List.mem_of_getElem? hx)
  -- `get`, `len`, `tagNum` return the list they were given, whatever they answer
  | _ => simp only [step] at h; (repeat' split at h) <;> exact Or.inl h

theorem inputs_cons (op : Op ρ) (ops : List (Op ρ)) : inputs (op :: ops) = inputs [op] ++ inputs ops := by
  cases op <;> rfl

/-- **records come back as stored**, lifted to every finite history: every record of the final list is a record
    of the initial list or one supplied by an `add` / `edit` of the history — nothing is fabricated or altered -/
theorem history_records (ops : List (Op ρ)) (l : List ρ) (r : ρ)
    (h : r ∈ ops.foldl (fun st op => (step tagOf st op).1) l) : r ∈ l ∨ r ∈ inputs ops := by
  -- carried along: what is in the list now or still to be offered is in `l` or offered by the whole history
  refine List.foldl_induct _ (fun st ops' => r ∈ st ∨ r ∈ inputs ops' → r ∈ l ∨ r ∈ inputs ops) ?_ ops l id (Or.inl h)
  intro st op ops' ih h'
  rw [inputs_cons, List.mem_append, ← or_assoc] at ih
  exact ih (h'.imp_left (step_mem tagOf st op r))

/-- a history in which every operation fails on `l` leaves `l` as it was: the list met by each operation is still `l` -/
theorem history_rejected (ops : List (Op ρ)) (l : List ρ)
    (h : ∀ op ∈ ops, ∃ e, (step tagOf l op).2 = .err e) :
    ops.foldl (fun st op => (step tagOf st op).1) l = l :=
  List.foldlRecOn (motive := (· = l)) ops _ rfl fun st hst op hop => by
    subst hst
    obtain ⟨e, he⟩ := h op hop
    exact step_error_unchanged tagOf st op e he

/-- a history of operations each of which fails on every list leaves the list as it was -/
theorem history_all_rejected (ops : List (Op ρ)) (l : List ρ)
    (h : ∀ op ∈ ops, ∀ l', ∃ e, (step tagOf l' op).2 = .err e) :
    ops.foldl (fun st op => (step tagOf st op).1) l = l :=
  history_rejected tagOf ops l fun op hop => h op hop l

/-- non-vacuity: duplicate tags, the first one is addressed -/
example : (step (fun (r : String × Nat) => some r.1) [("a", 1), ("b", 2), ("a", 3)] (.get (.tag "a"))) =
    ([("a", 1), ("b", 2), ("a", 3)], .record ("a", 1)) := by
  rfl

end C18
