import DiffcalcProofs.Props.C03
import DiffcalcProofs.Props.C01Sample
import DiffcalcProofs.Props.Pipeline
/-!
# C03 — completeness of the sample layer (`calc_sample.py`, `__get_last_sample_angle`)

For every branch: a position that satisfies the branch's relation and carries the given angles is among the tuples returned, modulo 2π —
no root is dropped.  The given position satisfies the branch's linear equation `p₀ cos β + p₁ sin β = c`, so the argument of the
`asin`/`acos` is in range and the first unknown is one of the two listed roots (`asin_branch_iff`, `acos_branch_iff`, which the soundness
proofs of `C01Sample` read in the other direction).  The candidate the branch builds from that root satisfies the relation because the branch
is sound (`Yields.of_allOk`); it and the given position then have three angles in common, and the relation fixes the fourth modulo 2π
(`mu_unique`, `eta_unique`, `rotY_unique`).  An exception in one generator ends the whole request, so where a branch loops over its roots
no sibling root may raise (`yields_forM'`).
-/

namespace C03
open M3 Solver Scalar PyOps C01
noncomputable section

/-! ## the sample rotation sees its angles through sine and cosine only; mu and eta are each fixed by the other three -/

theorem Z_congr (mu mu' eta eta' chi phi : ℝ) (h1 : SameAngle mu mu') (h2 : SameAngle eta eta') :
    C04.Z mu eta chi phi = C04.Z mu' eta' chi phi := Z_congr4 _ _ _ _ _ _ _ _ h1 h2 (sameAngle_refl _) (sameAngle_refl _)

theorem Z_congr_chi (mu eta chi chi' phi : ℝ) (h : SameAngle chi chi') : C04.Z mu eta chi phi = C04.Z mu eta chi' phi :=
  Z_congr4 _ _ _ _ _ _ _ _ (sameAngle_refl _) (sameAngle_refl _) h (sameAngle_refl _)

theorem Z_congr_phi (mu eta chi phi phi' : ℝ) (h : SameAngle phi phi') : C04.Z mu eta chi phi = C04.Z mu eta chi phi' :=
  Z_congr4 _ _ _ _ _ _ _ _ (sameAngle_refl _) (sameAngle_refl _) (sameAngle_refl _) h

/-- **mu is determined by the other three**: two positions that differ only in mu and both satisfy the sample relation have the same mu modulo 2π,
    unless `ETA·CHI·PHI·h` lies along the mu axis -/
theorem mu_unique (mu mu' eta chi phi : ℝ) (h q : V3 ℝ)
    (h1 : M3.mulVec (C04.Z mu eta chi phi) h = q) (h2 : M3.mulVec (C04.Z mu' eta chi phi) h = q)
    (hne : (M3.mulVec (ecp eta chi phi) h).y ^ 2 + (M3.mulVec (ecp eta chi phi) h).z ^ 2 ≠ 0) : SameAngle mu mu' := by
  rw [Z_eq_mu_ecp, M3.mulVec_mul] at h1 h2
  exact rotX_unique hne h1 h2

/-- **eta is determined by the other three** (unless `CHI·PHI·h` lies along the eta axis) -/
theorem eta_unique (mu eta eta' chi phi : ℝ) (h q : V3 ℝ)
    (h1 : M3.mulVec (C04.Z mu eta chi phi) h = q) (h2 : M3.mulVec (C04.Z mu eta' chi phi) h = q)
    (hne : (inner chi phi h).x ^ 2 + (inner chi phi h).y ^ 2 ≠ 0) : SameAngle eta eta' :=
  rotZ_neg_unique hne ((sampleSpec_iff_eta _ _ _ _ _ _).mp h1) ((sampleSpec_iff_eta _ _ _ _ _ _).mp h2)

/-! ## detector + two sample angles -/

/-- **completeness of `__calc_sample_con_mu_eta`** -/
theorem sampleConMuEta_complete (mu eta qaz theta : ℝ) (N : M3 ℝ) (hN : N.a00 ^ 2 + N.a10 ^ 2 + N.a20 ^ 2 = 1)
    (chi0 phi0 : ℝ) (hS : SampleSpec ⟨N.a00, N.a10, N.a20⟩ theta qaz (mu, eta, chi0, phi0))
    (hsm : (Scalar.isSmall N.a00 && Scalar.isSmall N.a10) = false)
    (hreg : (outerInv mu eta (qDir theta qaz)).x ^ 2 + (outerInv mu eta (qDir theta qaz)).z ^ 2 ≠ 0) :
    ∃ l, sampleConMuEta mu eta qaz theta N = .ok l ∧
      ∃ t ∈ l, t.1 = mu ∧ t.2.1 = eta ∧ SameAngle t.2.2.1 chi0 ∧ SameAngle t.2.2.2 phi0 := by
  have hr := hypot_pos_of_not_small hsm
  -- the position says `CHI₀·(PHI₀·h) = v`; the y-component is the linear equation in phi, so phi₀ is one of the two listed roots
  have hin := (sampleSpec_iff_inner mu eta chi0 phi0 _ _).mp hS
  rw [inner_eq] at hin
  have hy0 := ((rotY_mulVec_eq_iff _ _ _).mp hin).2
  obtain ⟨hclip, hroot⟩ := (asin_branch_iff hr (-(outerInv mu eta (qDir theta qaz)).y) phi0).mp (by rw [neg_neg, ← hy0, rotZ_neg_mulVec])
  obtain ⟨phi', hmem, hsame⟩ := exists_mem_pair hroot
  refine Yields.of_allOk (sampleConMuEta_sound mu eta qaz theta N hN hclip) ?_
  obtain ⟨v0, v1, v2⟩ := col0_entries (V_muEta_col0 mu eta qaz theta)
  unfold sampleConMuEta
  simp only [v0, v1, v2, hsm, Bool.false_eq_true, if_false]
  rw [boundAsin_eq hclip, tryAssert_ok]
  refine ⟨_, rfl, _, List.mem_map.mpr ⟨phi', hmem, rfl⟩, fun hSt => ⟨rfl, rfl, ?_, hsame⟩⟩
  -- the chi of that candidate and chi₀ both turn `PHI'·h = PHI₀·h` onto `v`
  have hC := (sampleSpec_iff_inner _ _ _ _ _ _).mp hSt
  rw [inner_eq, rotZ_neg_mulVec, hsame.1, hsame.2, ← rotZ_neg_mulVec] at hC
  exact rotY_unique (by rw [rotY_plane_sq hin]; exact hreg) hC hin

/-- `__calc_sample_con_mu_eta` never raises once the reflection is not along the phi axis: an out-of-range sine only empties the list -/
theorem sampleConMuEta_total (m e qaz theta : ℝ) (N : M3 ℝ) (hsm : (Scalar.isSmall N.a00 && Scalar.isSmall N.a10) = false) :
    ∃ l, sampleConMuEta m e qaz theta N = .ok l := by
  unfold sampleConMuEta
  simp only [hsm, Bool.false_eq_true, if_false]
  unfold tryAssert boundAsin
  generalize (_ / Scalar.hypot N.a00 N.a10 : ℝ) = x
  rcases bound_cases x with ⟨y, hy, hle⟩ | he
  · rw [hy]; simp only [bind, Except.bind, pyAsin_eq hle]; exact ⟨_, rfl⟩
  · rw [he]; exact ⟨[], rfl⟩

/-- the mu + eta branch may be run at any `(m, e)` that equals the position's `(mu₀, eta₀)` modulo 2π: what the three bisect branches need -/
theorem sampleConMuEta_complete_of_same (m e qaz theta : ℝ) (N : M3 ℝ) (hN : N.a00 ^ 2 + N.a10 ^ 2 + N.a20 ^ 2 = 1)
    (mu0 eta0 chi0 phi0 : ℝ) (hm : SameAngle m mu0) (he : SameAngle e eta0)
    (hS : SampleSpec ⟨N.a00, N.a10, N.a20⟩ theta qaz (mu0, eta0, chi0, phi0))
    (hsm : (Scalar.isSmall N.a00 && Scalar.isSmall N.a10) = false)
    (hreg : (outerInv mu0 eta0 (qDir theta qaz)).x ^ 2 + (outerInv mu0 eta0 (qDir theta qaz)).z ^ 2 ≠ 0) :
    ∃ lx, sampleConMuEta m e qaz theta N = .ok lx ∧
      ∃ t ∈ lx, t.1 = m ∧ t.2.1 = e ∧ SameAngle t.2.2.1 chi0 ∧ SameAngle t.2.2.2 phi0 := by
  -- `Z` and `outerInv` see mu and eta only through their sines and cosines
  simp only [SampleSpec, ← Z_congr m mu0 e eta0 chi0 phi0 hm he] at hS
  rw [outerInv_comps, ← hm.1, ← hm.2, ← he.1, ← he.2, ← outerInv_comps] at hreg
  exact sampleConMuEta_complete m e qaz theta N hN chi0 phi0 hS hsm hreg

/-- **completeness of `__calc_sample_con_omega_bisect`**: a position that satisfies the sample relation and the bisect relation at the
    constrained omega is returned, modulo 2π in all four sample angles (generic branch: `cos μ₀ ≠ 0`, |asin| not within 1e-8 of 90°) -/
theorem omegaBisect_complete (omega qaz theta : ℝ) (N : M3 ℝ) (hN : N.a00 ^ 2 + N.a10 ^ 2 + N.a20 ^ 2 = 1)
    (mu0 eta0 chi0 phi0 : ℝ) (hS : SampleSpec ⟨N.a00, N.a10, N.a20⟩ theta qaz (mu0, eta0, chi0, phi0))
    (hBm : Real.tan mu0 = Real.tan (theta + omega) * Real.cos qaz) (hBe : Real.sin eta0 = Real.sin (theta + omega) * Real.sin qaz)
    (hcm : Real.cos mu0 ≠ 0)
    (hgen : Scalar.isSmall (|Real.arcsin (Real.sin (theta + omega) * Real.sin qaz)| - Real.pi / 2) = false)
    (hsm : (Scalar.isSmall N.a00 && Scalar.isSmall N.a10) = false)
    (hreg : (outerInv mu0 eta0 (qDir theta qaz)).x ^ 2 + (outerInv mu0 eta0 (qDir theta qaz)).z ^ 2 ≠ 0) :
    ∃ l, sampleConOmegaBisect omega qaz theta N = .ok l ∧
      ∃ t ∈ l, SameAngle t.1 mu0 ∧ SameAngle t.2.1 eta0 ∧ SameAngle t.2.2.1 chi0 ∧ SameAngle t.2.2.2 phi0 := by
  unfold sampleConOmegaBisect
  simp only [rs_tan, rs_cos, rs_sin, rs_atan, rs_asin, rs_pi, rs_two, rs_abs, hgen, Bool.false_eq_true, if_false]
  obtain ⟨m, hm, hmS⟩ := exists_mem_pair (atan_roots_complete mu0 _ hcm hBm)
  obtain ⟨e, he, heS⟩ := exists_mem_pair (asin_roots_complete eta0 _ (abs_mul_le_one (Real.abs_sin_le_one _) (Real.abs_sin_le_one _)) hBe)
  exact yields_forM' (f := fun me : ℝ × ℝ => sampleConMuEta me.1 me.2 qaz theta N) (fun me _ => sampleConMuEta_total me.1 me.2 qaz theta N hsm)
    (List.mem_flatMap.mpr ⟨m, hm, List.mem_map.mpr ⟨e, he, rfl⟩⟩)
    (Yields.mono (sampleConMuEta_complete_of_same m e qaz theta N hN mu0 eta0 chi0 phi0 hmS heS hS hsm hreg)
      fun t ⟨h1, h2, h⟩ => ⟨by rw [h1]; exact hmS, by rw [h2]; exact heS, h⟩)

/-- **completeness of `__calc_sample_con_mu_bisect`** (omega free): a position with the constrained mu that satisfies the sample relation and the
    bisect relation for SOME value of θ+ω is returned modulo 2π (generic branch: `cos qaz` not small, `cos(θ+ω) ≠ 0`, no ±90° shortcut for eta) -/
theorem muBisect_complete (mu qaz theta : ℝ) (N : M3 ℝ) (hN : N.a00 ^ 2 + N.a10 ^ 2 + N.a20 ^ 2 = 1)
    (eta0 chi0 phi0 thomega0 : ℝ) (hS : SampleSpec ⟨N.a00, N.a10, N.a20⟩ theta qaz (mu, eta0, chi0, phi0))
    (hBm : Real.tan mu = Real.tan thomega0 * Real.cos qaz) (hBe : Real.sin eta0 = Real.sin thomega0 * Real.sin qaz)
    (hct : Real.cos thomega0 ≠ 0) (hcq : Scalar.isSmall (Real.cos qaz) = false)
    (hgen : ∀ th, SameAngle th thomega0 → Scalar.isSmall (|Real.arcsin (Real.sin th * Real.sin qaz)| - Real.pi / 2) = false)
    (hsm : (Scalar.isSmall N.a00 && Scalar.isSmall N.a10) = false)
    (hreg : (outerInv mu eta0 (qDir theta qaz)).x ^ 2 + (outerInv mu eta0 (qDir theta qaz)).z ^ 2 ≠ 0) :
    ∃ l, sampleConMuBisect mu qaz theta N = .ok l ∧
      ∃ t ∈ l, t.1 = mu ∧ SameAngle t.2.1 eta0 ∧ SameAngle t.2.2.1 chi0 ∧ SameAngle t.2.2.2 phi0 := by
  unfold sampleConMuBisect
  simp only [rs_tan, rs_cos, rs_sin, rs_atan, rs_asin, rs_pi, rs_two, rs_abs, hcq, Bool.false_eq_true, if_false]
  -- θ+ω is one of the two `atan` roots, and eta₀ one of the two `asin` roots that belong to it
  obtain ⟨th, hth, hthS⟩ := exists_mem_pair
    ((atan_roots_complete thomega0 (Real.tan mu / Real.cos qaz) hct (by rw [hBm, mul_div_cancel_right₀ _ (C01.not_small_ne_zero hcq)])).imp_right fun h => by rwa [add_comm] at h)
  have hg := hgen th hthS
  obtain ⟨e, he, heS⟩ := exists_mem_pair (asin_roots_complete eta0 _ (abs_mul_le_one (Real.abs_sin_le_one th) (Real.abs_sin_le_one qaz)) (by rw [hBe, hthS.1]))
  exact yields_forM' (fun e _ => sampleConMuEta_total mu e qaz theta N hsm) (List.mem_flatMap.mpr ⟨th, hth, by rw [hg]; simpa using he⟩)
    (Yields.mono (sampleConMuEta_complete_of_same mu e qaz theta N hN mu eta0 chi0 phi0 (sameAngle_refl _) heS hS hsm hreg)
      fun t ⟨h1, h2, h⟩ => ⟨h1, by rw [h2]; exact heS, h⟩)

/-- **completeness of `__calc_sample_con_eta_bisect`**: a position with the constrained eta that satisfies the sample relation and the bisect
    relation for SOME value of θ+ω is returned modulo 2π (generic branch: `sin qaz` not small, `cos μ₀ ≠ 0`, θ+ω not within 1e-8 of ±90°) -/
theorem etaBisect_complete (eta qaz theta : ℝ) (N : M3 ℝ) (hN : N.a00 ^ 2 + N.a10 ^ 2 + N.a20 ^ 2 = 1)
    (mu0 chi0 phi0 thomega0 : ℝ) (hS : SampleSpec ⟨N.a00, N.a10, N.a20⟩ theta qaz (mu0, eta, chi0, phi0))
    (hBm : Real.tan mu0 = Real.tan thomega0 * Real.cos qaz) (hBe : Real.sin eta = Real.sin thomega0 * Real.sin qaz)
    (hcm : Real.cos mu0 ≠ 0) (hsq : Scalar.isSmall (Real.sin qaz) = false)
    (hgen : Scalar.isSmall (|Real.arcsin (Real.sin eta / Real.sin qaz)| - Real.pi / 2) = false)
    (hsm : (Scalar.isSmall N.a00 && Scalar.isSmall N.a10) = false)
    (hreg : (outerInv mu0 eta (qDir theta qaz)).x ^ 2 + (outerInv mu0 eta (qDir theta qaz)).z ^ 2 ≠ 0) :
    ∃ l, sampleConEtaBisect eta qaz theta N = .ok l ∧
      ∃ t ∈ l, SameAngle t.1 mu0 ∧ t.2.1 = eta ∧ SameAngle t.2.2.1 chi0 ∧ SameAngle t.2.2.2 phi0 := by
  have hst : Real.sin thomega0 = Real.sin eta / Real.sin qaz := by rw [hBe, mul_div_cancel_right₀ _ (C01.not_small_ne_zero hsq)]
  have hclip : |Real.sin eta / Real.sin qaz| ≤ 1 := by rw [← hst]; exact Real.abs_sin_le_one _
  unfold sampleConEtaBisect
  simp only [rs_tan, rs_cos, rs_sin, rs_atan, rs_pi, rs_two, rs_abs, hsq, Bool.false_eq_true, if_false]
  rw [boundAsin_eq hclip, tryAssert_ok]
  simp only [hgen, Bool.false_eq_true, if_false]
  -- θ+ω is one of the two `asin` roots, and mu₀ one of the two `atan` roots that belong to it
  obtain ⟨th, hth, hthS⟩ := exists_mem_pair (asin_roots_complete thomega0 _ hclip hst)
  obtain ⟨m, hm, hmS⟩ := exists_mem_pair ((atan_roots_complete mu0 (Real.tan th * Real.cos qaz) hcm
    (by rw [Real.tan_eq_sin_div_cos th, hthS.1, hthS.2, ← Real.tan_eq_sin_div_cos]; exact hBm)).imp_right fun h => by rwa [add_comm] at h)
  exact yields_forM' (fun m _ => sampleConMuEta_total m eta qaz theta N hsm) (List.mem_flatMap.mpr ⟨th, hth, hm⟩)
    (Yields.mono (sampleConMuEta_complete_of_same m eta qaz theta N hN mu0 eta chi0 phi0 hmS (sameAngle_refl _) hS hsm hreg)
      fun t ⟨h1, h2, h⟩ => ⟨by rw [h1]; exact hmS, h2, h⟩)

/-- the pair `(X, Y)` whose `atan2` is eta in `__calc_sample_con_chi_phi` -/
def chiPhiXY (g : V3 ℝ) (qaz theta mu : ℝ) : ℝ × ℝ :=
  (g.y * (Real.cos theta * Real.sin qaz) + g.x * (-(Real.cos theta) * Real.sin mu * Real.cos qaz + Real.cos mu * Real.sin theta),
   g.x * (Real.cos theta * Real.sin qaz) - g.y * (-(Real.cos theta) * Real.sin mu * Real.cos qaz + Real.cos mu * Real.sin theta))

/-- **completeness of `__calc_sample_con_chi_phi`** -/
theorem sampleConChiPhi_complete (chi phi qaz theta : ℝ) (N : M3 ℝ) (hN : N.a00 ^ 2 + N.a10 ^ 2 + N.a20 ^ 2 = 1)
    (mu0 eta0 : ℝ) (hS : SampleSpec ⟨N.a00, N.a10, N.a20⟩ theta qaz (mu0, eta0, chi, phi))
    (hr0 : Real.sin theta ≠ 0 ∨ -(Real.cos qaz) * Real.cos theta ≠ 0)
    (hall : ∀ mu ∈ [Real.arcsin ((inner chi phi ⟨N.a00, N.a10, N.a20⟩).z / Scalar.hypot (Real.sin theta) (-(Real.cos qaz) * Real.cos theta))
          + atan2R (-(Real.cos qaz) * Real.cos theta) (Real.sin theta),
        Real.pi - Real.arcsin ((inner chi phi ⟨N.a00, N.a10, N.a20⟩).z / Scalar.hypot (Real.sin theta) (-(Real.cos qaz) * Real.cos theta))
          + atan2R (-(Real.cos qaz) * Real.cos theta) (Real.sin theta)],
      (Scalar.isSmall (chiPhiXY (inner chi phi ⟨N.a00, N.a10, N.a20⟩) qaz theta mu).1 &&
        Scalar.isSmall (chiPhiXY (inner chi phi ⟨N.a00, N.a10, N.a20⟩) qaz theta mu).2) = false)
    (hreg : (inner chi phi ⟨N.a00, N.a10, N.a20⟩).x ^ 2 + (inner chi phi ⟨N.a00, N.a10, N.a20⟩).y ^ 2 ≠ 0) :
    ∃ l, sampleConChiPhi chi phi qaz theta N = .ok l ∧
      ∃ t ∈ l, SameAngle t.1 mu0 ∧ SameAngle t.2.1 eta0 ∧ t.2.2.1 = chi ∧ t.2.2.2 = phi := by
  have hr := hypot_pos_iff.mpr hr0
  have hz0 := ((rotZ_neg_mulVec_eq_iff _ _ _).mp ((sampleSpec_iff_eta mu0 eta0 chi phi _ _).mp hS)).2
  obtain ⟨hclip, hroot⟩ := (asin_branch_iff hr (inner chi phi ⟨N.a00, N.a10, N.a20⟩).z mu0).mp
    (by rw [hz0, rotX_transpose_mulVec]; simp only [qDir]; ring)
  obtain ⟨mu', hmem, hsame⟩ := exists_mem_pair hroot
  refine Yields.of_allOk (sampleConChiPhi_sound chi phi qaz theta N hN hr0 (by rwa [sqrt_chiPhi])) ?_
  obtain ⟨v0, v1, v2⟩ := col0_entries (rot_CHI_PHI_mul_col0 chi phi N)
  unfold sampleConChiPhi
  simp only [v0, v1, v2, rs_cos, rs_sin, rs_atan2, rs_pi]
  rw [pySqrt_eq (sumsq_nonneg _ _ _)]
  simp only [bind, Except.bind]
  rw [sqrt_chiPhi, boundAsin_eq hclip, tryAssert_ok]
  -- neither root raises (`chiPhiXY` is the pair the loop body tests), and the one that is mu₀ yields a candidate, whose eta the relation pins
  simp only [chiPhiXY] at hall
  have hbody := fun mu hmu => Bool.eq_false_iff.mp (hall mu hmu)
  refine yields_forM' (fun mu hmu => ⟨_, if_neg (hbody mu hmu)⟩) hmem
    ⟨_, if_neg (hbody mu' hmem), _, List.mem_singleton.mpr rfl, fun hSt => ⟨hsame, ?_, rfl, rfl⟩⟩
  rw [SampleSpec, ← Z_congr mu' mu0 eta0 eta0 chi phi hsame (sameAngle_refl _)] at hS
  exact eta_unique mu' _ eta0 chi phi _ _ hSt hS hreg

/-- **completeness of `__calc_sample_con_mu_phi`** -/
theorem sampleConMuPhi_complete (mu phi qaz theta : ℝ) (N : M3 ℝ) (hN : N.a00 ^ 2 + N.a10 ^ 2 + N.a20 ^ 2 = 1)
    (eta0 chi0 : ℝ) (hS : SampleSpec ⟨N.a00, N.a10, N.a20⟩ theta qaz (mu, eta0, chi0, phi))
    (hE : N.a00 * Real.cos phi + N.a10 * Real.sin phi ≠ 0 ∨ N.a20 ≠ 0)
    (hreg : (M3.mulVec (M3.transpose (rotX mu)) (qDir theta qaz)).x ^ 2 + (M3.mulVec (M3.transpose (rotX mu)) (qDir theta qaz)).y ^ 2 ≠ 0) :
    ∃ l, sampleConMuPhi mu phi qaz theta N = .ok l ∧
      ∃ t ∈ l, t.1 = mu ∧ SameAngle t.2.1 eta0 ∧ SameAngle t.2.2.1 chi0 ∧ t.2.2.2 = phi := by
  have hr := hypot_pos_iff.mpr hE
  have hz0 := ((rotZ_neg_mulVec_eq_iff _ _ _).mp ((sampleSpec_iff_eta mu eta0 chi0 phi _ _).mp hS)).2
  obtain ⟨hclip, hroot⟩ := (asin_branch_iff hr (-(M3.mulVec (M3.transpose (rotX mu)) (qDir theta qaz)).z) chi0).mp
    (by rw [neg_neg, ← hz0, inner_comps])
  obtain ⟨chi', hmem, hsame⟩ := exists_mem_pair hroot
  refine Yields.of_allOk (sampleConMuPhi_sound mu phi qaz theta N hN hE hclip) ?_
  obtain ⟨v0, v1, v2⟩ := col0_entries (col0_mul_F_THETA (M3.transpose (rotX mu)) qaz theta)
  obtain ⟨e0, e1, e2⟩ := col0_entries (rot_PHI_mul_col0 phi N)
  unfold sampleConMuPhi
  simp only [(gen_rot_senses mu).1, v0, v1, v2, e0, e1, e2]
  rw [boundAsin_eq hclip, tryAssert_ok]
  refine ⟨_, rfl, _, List.mem_map.mpr ⟨chi', hmem, rfl⟩, fun hSt => ⟨rfl, ?_, hsame, rfl⟩⟩
  rw [SampleSpec, ← Z_congr_chi mu eta0 chi' chi0 phi hsame] at hS
  exact eta_unique mu _ eta0 chi' phi _ _ hSt hS (by rw [rotZ_neg_plane_sq ((sampleSpec_iff_eta _ _ _ _ _ _).mp hS)]; exact hreg)

/-- **completeness of `__calc_sample_con_mu_chi`** -/
theorem sampleConMuChi_complete (mu chi qaz theta : ℝ) (N : M3 ℝ) (hN : N.a00 ^ 2 + N.a10 ^ 2 + N.a20 ^ 2 = 1)
    (eta0 phi0 : ℝ) (hS : SampleSpec ⟨N.a00, N.a10, N.a20⟩ theta qaz (mu, eta0, chi, phi0))
    (hschi : Scalar.isSmall (Real.sin chi) = false)
    (hAB : (Scalar.isSmall N.a10 && Scalar.isSmall N.a00) = false)
    (hA00 : (Scalar.isSmall (-(Real.cos qaz) * Real.cos theta * Real.sin mu + Real.cos mu * Real.sin theta) && Scalar.isSmall (Real.sin qaz * Real.cos theta)) = false)
    (hgen : Scalar.isSmall (Real.arccos ((N.a20 * Real.cos chi - (Real.cos mu * Real.cos qaz * Real.cos theta + Real.sin mu * Real.sin theta)) /
              (Real.sin chi * Scalar.hypot N.a10 N.a00))) = false)
    (hne : ∀ phi, SameAngle phi phi0 → (inner chi phi ⟨N.a00, N.a10, N.a20⟩).x ^ 2 + (inner chi phi ⟨N.a00, N.a10, N.a20⟩).y ^ 2 ≠ 0) :
    ∃ l, sampleConMuChi mu chi qaz theta N = .ok l ∧
      ∃ t ∈ l, t.1 = mu ∧ SameAngle t.2.1 eta0 ∧ t.2.2.1 = chi ∧ SameAngle t.2.2.2 phi0 := by
  have hr := hypot_pos_of_not_small hAB
  have hz0 := ((rotZ_neg_mulVec_eq_iff _ _ _).mp ((sampleSpec_iff_eta mu eta0 chi phi0 _ _).mp hS)).2
  -- the code divides by `sin χ · hypot`: the z-component is `N₀₀ cos φ + N₁₀ sin φ = (N₂₀ cos χ − V₂₀) / sin χ`
  obtain ⟨hclip, hroot⟩ := (acos_branch_iff hr ((N.a20 * Real.cos chi - (Real.cos mu * Real.cos qaz * Real.cos theta + Real.sin mu * Real.sin theta)) /
      Real.sin chi) phi0).mp (by
    rw [inner_comps, rotX_transpose_mulVec] at hz0
    simp only [qDir] at hz0
    rw [eq_div_iff (not_small_ne_zero hschi)]
    linear_combination -hz0)
  obtain ⟨phi', hm, hsame⟩ := exists_mem_pair hroot
  refine Yields.of_allOk (sampleConMuChi_sound mu chi qaz theta N hN (by rwa [div_mul_eq_div_div]) hgen) ?_
  rw [div_mul_eq_div_div] at hgen
  unfold sampleConMuChi
  simp only [rs_cos, rs_sin, rs_atan2, hschi, hAB, Bool.false_eq_true, if_false]
  rw [div_mul_eq_div_div, boundAcos_eq hclip, tryAssert_ok, if_neg (Bool.eq_false_iff.mp hgen)]
  have hA00' := Bool.eq_false_iff.mp hA00
  refine yields_forM' (fun _ _ => ⟨_, if_neg hA00'⟩) hm ⟨_, if_neg hA00', _, List.mem_singleton.mpr rfl, fun hSt => ⟨rfl, ?_, rfl, hsame⟩⟩
  rw [SampleSpec, ← Z_congr_phi mu eta0 chi phi' phi0 hsame] at hS
  exact eta_unique mu _ eta0 chi phi' _ _ hSt hS (hne phi' hsame)

/-- **completeness of `__calc_sample_con_eta_phi`** (generic branch of the soundness theorem, plus: the given position is not on the mu axis) -/
theorem sampleConEtaPhi_complete (eta phi qaz theta : ℝ) (N : M3 ℝ) (hN : N.a00 ^ 2 + N.a10 ^ 2 + N.a20 ^ 2 = 1)
    (mu0 chi0 : ℝ) (hS : SampleSpec ⟨N.a00, N.a10, N.a20⟩ theta qaz (mu0, eta, chi0, phi))
    (hce : Real.cos eta ≠ 0)
    (hrho : -(Real.sin theta) ≠ 0 ∨ Real.cos theta * Real.cos qaz ≠ 0)
    (hXY : (Scalar.isSmall N.a20 && Scalar.isSmall (N.a00 * Real.cos phi + N.a10 * Real.sin phi)) = false)
    (hgen : Scalar.isSmall (Real.arccos ((Real.sin qaz * Real.cos theta / Real.cos eta - (N.a10 * Real.cos phi - N.a00 * Real.sin phi) * Real.tan eta) /
              Scalar.hypot N.a20 (N.a00 * Real.cos phi + N.a10 * Real.sin phi))) = false)
    (hne : ∀ chi, SameAngle chi chi0 → (M3.mulVec (ecp eta chi phi) ⟨N.a00, N.a10, N.a20⟩).y ^ 2 + (M3.mulVec (ecp eta chi phi) ⟨N.a00, N.a10, N.a20⟩).z ^ 2 ≠ 0) :
    ∃ l, sampleConEtaPhi eta phi qaz theta N = .ok l ∧
      ∃ t ∈ l, SameAngle t.1 mu0 ∧ t.2.1 = eta ∧ SameAngle t.2.2.1 chi0 ∧ t.2.2.2 = phi := by
  have hr := hypot_pos_of_not_small hXY
  have hx0 := ((rotX_mulVec_eq_iff _ _ _).mp ((Z_mulVec_nested mu0 eta chi0 phi _).symm.trans hS)).2
  obtain ⟨hclip, hroot⟩ := (lin_cos_add_iff hr ((Real.sin qaz * Real.cos theta / Real.cos eta - (N.a10 * Real.cos phi - N.a00 * Real.sin phi) * Real.tan eta) /
      Scalar.hypot N.a20 (N.a00 * Real.cos phi + N.a10 * Real.sin phi)) chi0).mp (by
    rw [rotZ_neg_mulVec, inner_comps] at hx0
    simp only [qDir] at hx0
    rw [mul_div_cancel₀ _ hr.ne', Real.tan_eq_sin_div_cos, ← mul_div_assoc, ← sub_div, eq_div_iff hce]
    linear_combination hx0)
  obtain ⟨chi', hm, hsame⟩ := exists_mem_pair hroot
  refine Yields.of_allOk (sampleConEtaPhi_sound eta phi qaz theta N hN hce hrho hclip hgen) ?_
  unfold sampleConEtaPhi
  simp only [rs_cos, rs_sin, rs_atan2, rs_tan, hXY, Bool.false_eq_true, if_false]
  rw [boundAcos_eq hclip, tryAssert_ok, if_neg (Bool.eq_false_iff.mp hgen)]
  refine ⟨_, rfl, _, List.mem_map.mpr ⟨chi', hm, rfl⟩, fun hSt => ⟨?_, rfl, hsame, rfl⟩⟩
  rw [SampleSpec, ← Z_congr_chi mu0 eta chi' chi0 phi hsame] at hS
  exact mu_unique _ mu0 eta chi' phi _ _ hSt hS (hne chi' hsame)

/-- the body of the loop over the phi roots in `__calc_sample_con_eta_chi` -/
def etaChiInner (eta chi qaz theta : ℝ) (N_phi : M3 ℝ) (phi : ℝ) : Py (List (STuple ℝ)) :=
  let A10 := N_phi.a00 * cos phi * sin chi + N_phi.a10 * sin chi * sin phi - N_phi.a20 * cos chi
  let B10 := -N_phi.a20 * sin chi * sin eta
              - (cos chi * cos phi * sin eta + cos eta * sin phi) * N_phi.a00
              - (cos chi * sin eta * sin phi - cos eta * cos phi) * N_phi.a10
  let V10 := -(sin theta)
  let A20 := B10
  let B20 := -N_phi.a00 * cos phi * sin chi - N_phi.a10 * sin chi * sin phi + N_phi.a20 * cos chi
  let V20 := cos qaz * cos theta
  let sin_mu := (V10 * B20 - V20 * B10) * sign (A10 * B20 - A20 * B10)
  let cos_mu := (V10 * A20 - V20 * A10) * sign (B10 * A20 - B20 * A10)
  if isSmall sin_mu && isSmall cos_mu then .error .dce
  else .ok [(atan2 sin_mu cos_mu, eta, chi, phi)]

/-- `__calc_sample_con_eta_chi` is its two tests followed by the loop of `etaChiInner` over the phi roots -/
theorem sampleConEtaChi_eq (eta chi qaz theta : ℝ) (N : M3 ℝ) :
    sampleConEtaChi eta chi qaz theta N =
      let A := N.a10 * cos chi * cos eta - N.a00 * sin eta
      let B := N.a00 * cos chi * cos eta + N.a10 * sin eta
      if isSmall A && isSmall B then .error .dce
      else tryAssert (boundAcos ((cos theta * sin qaz - N.a20 * cos eta * sin chi) / hypot A B)) fun a =>
        forM' (if isSmall a then [atan2 A B] else [a + atan2 A B, -a + atan2 A B]) (etaChiInner eta chi qaz theta N) := by
  unfold sampleConEtaChi etaChiInner
  rfl

theorem etaChiInner_shape (eta chi qaz theta : ℝ) (N : M3 ℝ) (phi : ℝ) (l : List (STuple ℝ)) (h : etaChiInner eta chi qaz theta N phi = .ok l) :
    ∃ m, l = [(m, eta, chi, phi)] := by
  unfold etaChiInner at h
  dsimp only at h
  split at h
  · cases h
  · simp only [Except.ok.injEq] at h
    exact ⟨_, h.symm⟩

/-- **completeness of `__calc_sample_con_eta_chi`** -/
theorem sampleConEtaChi_complete (eta chi qaz theta : ℝ) (N : M3 ℝ) (hN : N.a00 ^ 2 + N.a10 ^ 2 + N.a20 ^ 2 = 1)
    (mu0 phi0 : ℝ) (hS : SampleSpec ⟨N.a00, N.a10, N.a20⟩ theta qaz (mu0, eta, chi, phi0))
    (hrho : (1e-7 : ℝ) < Real.sin theta ^ 2 + (Real.cos qaz * Real.cos theta) ^ 2)
    (hAB : (Scalar.isSmall (N.a10 * Real.cos chi * Real.cos eta - N.a00 * Real.sin eta) &&
            Scalar.isSmall (N.a00 * Real.cos chi * Real.cos eta + N.a10 * Real.sin eta)) = false)
    (hgen : Scalar.isSmall (Real.arccos ((Real.cos theta * Real.sin qaz - N.a20 * Real.cos eta * Real.sin chi) /
              Scalar.hypot (N.a10 * Real.cos chi * Real.cos eta - N.a00 * Real.sin eta) (N.a00 * Real.cos chi * Real.cos eta + N.a10 * Real.sin eta))) = false)
    (hall : ∀ phi ∈ [Real.arccos ((Real.cos theta * Real.sin qaz - N.a20 * Real.cos eta * Real.sin chi) /
              Scalar.hypot (N.a10 * Real.cos chi * Real.cos eta - N.a00 * Real.sin eta) (N.a00 * Real.cos chi * Real.cos eta + N.a10 * Real.sin eta))
            + atan2R (N.a10 * Real.cos chi * Real.cos eta - N.a00 * Real.sin eta) (N.a00 * Real.cos chi * Real.cos eta + N.a10 * Real.sin eta),
          -Real.arccos ((Real.cos theta * Real.sin qaz - N.a20 * Real.cos eta * Real.sin chi) /
              Scalar.hypot (N.a10 * Real.cos chi * Real.cos eta - N.a00 * Real.sin eta) (N.a00 * Real.cos chi * Real.cos eta + N.a10 * Real.sin eta))
            + atan2R (N.a10 * Real.cos chi * Real.cos eta - N.a00 * Real.sin eta) (N.a00 * Real.cos chi * Real.cos eta + N.a10 * Real.sin eta)],
        ∃ t, etaChiInner eta chi qaz theta N phi = .ok [t])
    (hne : ∀ phi, SameAngle phi phi0 → (M3.mulVec (ecp eta chi phi) ⟨N.a00, N.a10, N.a20⟩).y ^ 2 + (M3.mulVec (ecp eta chi phi) ⟨N.a00, N.a10, N.a20⟩).z ^ 2 ≠ 0) :
    ∃ l, sampleConEtaChi eta chi qaz theta N = .ok l ∧
      ∃ t ∈ l, SameAngle t.1 mu0 ∧ t.2.1 = eta ∧ t.2.2.1 = chi ∧ SameAngle t.2.2.2 phi0 := by
  have hr := hypot_pos_of_not_small hAB
  have hx0 := ((rotX_mulVec_eq_iff _ _ _).mp ((Z_mulVec_nested mu0 eta chi phi0 _).symm.trans hS)).2
  obtain ⟨hclip, hroot⟩ := (acos_branch_iff hr (Real.cos theta * Real.sin qaz - N.a20 * Real.cos eta * Real.sin chi) phi0).mp (by
    rw [rotZ_neg_mulVec, inner_comps] at hx0
    simp only [qDir] at hx0
    linear_combination hx0)
  obtain ⟨phi', hm, hsame⟩ := exists_mem_pair hroot
  refine Yields.of_allOk (sampleConEtaChi_sound eta chi qaz theta N hN hrho hclip hgen) ?_
  rw [sampleConEtaChi_eq]
  simp only [rs_cos, rs_sin, rs_atan2, hAB, Bool.false_eq_true, if_false]
  rw [boundAcos_eq hclip, tryAssert_ok, hgen]
  -- neither root raises (`hall`), and the round of the root that is phi₀ yields a candidate, whose mu the relation pins
  obtain ⟨t, ht⟩ := hall phi' hm
  obtain ⟨m, hm'⟩ := etaChiInner_shape eta chi qaz theta N phi' [t] ht
  obtain rfl : t = (m, eta, chi, phi') := List.singleton_inj.mp hm'
  refine yields_forM' (fun phi hphi => let ⟨t, h⟩ := hall phi hphi; ⟨[t], h⟩) hm
    ⟨_, ht, _, List.mem_singleton.mpr rfl, fun hSt => ⟨?_, rfl, rfl, hsame⟩⟩
  rw [SampleSpec, ← Z_congr_phi mu0 eta chi phi' phi0 hsame] at hS
  exact mu_unique m mu0 eta chi phi' _ _ hSt hS (hne phi' hsame)

/-! ## detector + reference + one sample angle -/

/-- **completeness of `__calc_sample_con_mu`** (generic branch: `sin χ₀` not small) -/
theorem sampleConMu_complete (mu : ℝ) (N_lab N_phi : M3 ℝ) (hl : IsRot N_lab) (hp : IsRot N_phi)
    (eta0 chi0 phi0 : ℝ) (hF : FullSpec N_lab N_phi (mu, eta0, chi0, phi0))
    (hgen : Scalar.isSmall (Real.sin (Real.arccos (Real.cos chi0))) = false) :
    ∃ l, sampleConMu mu N_lab N_phi = .ok l ∧
      ∃ t ∈ l, t.1 = mu ∧ SameAngle t.2.1 eta0 ∧ SameAngle t.2.2.1 chi0 ∧ SameAngle t.2.2.2 phi0 := by
  -- the matrix the code reads its angles off is `ETA·CHI·PHI` at the position's angles
  have hV := ((fullSpec_iff_ecp mu eta0 chi0 phi0 N_lab hp).mp hF).symm
  obtain ⟨chi', hmem, hsame⟩ := exists_mem_pair (acos_roots_complete chi0 _ (Real.abs_cos_le_one _) rfl)
  have hsm := (isSmall_sin_congr (hsame.2.trans (cos_arccos_of_abs_le (Real.abs_cos_le_one _)).symm)).trans hgen
  unfold sampleConMu
  dsimp only
  rw [(gen_rot_senses mu).1, inv_rotX, hV, ecp_entries]
  dsimp only
  rw [boundAcos_eq (Real.abs_cos_le_one _)]
  simp only [catchAssert, bind, Except.bind, rs_sin, rs_atan2, hgen, Bool.false_eq_true, if_false, pure, Except.pure]
  refine ⟨_, rfl, _, List.mem_map.mpr ⟨chi', hmem, rfl⟩, rfl, ?_, hsame, ?_⟩
  -- once the signs cancel, either pair of `atan2` arguments is `sign (sin χ') · (sin χ' · (sin, cos))` of the angle sought
  · rw [← hsame.1]
    simp only [neg_mul, mul_neg, neg_neg]
    rw [mul_comm (Real.sin eta0), mul_comm (Real.cos eta0)]
    exact sameAngle_atan2_sign hsm
  · rw [← hsame.1]
    simp only [neg_mul, mul_neg, neg_neg]
    exact sameAngle_atan2_sign hsm

/-- **completeness of `__calc_sample_con_phi`** (generic branch: `cos η₀` not small) -/
theorem sampleConPhi_complete (phi : ℝ) (N_lab N_phi : M3 ℝ) (hp : IsRot N_phi)
    (mu0 eta0 chi0 : ℝ) (hF : FullSpec N_lab N_phi (mu0, eta0, chi0, phi))
    (hgen : Scalar.isSmall (Real.cos (Real.arcsin (Real.sin eta0))) = false) :
    ∃ l, sampleConPhi phi N_lab N_phi = .ok l ∧
      ∃ t ∈ l, SameAngle t.1 mu0 ∧ SameAngle t.2.1 eta0 ∧ SameAngle t.2.2.1 chi0 ∧ t.2.2.2 = phi := by
  -- the matrix the code reads its angles off is `MU·ETA·CHI` at the position's angles
  have hV := ((fullSpec_iff_mec mu0 eta0 chi0 phi N_lab hp).mp hF).symm
  obtain ⟨eta', hmem, hsame⟩ := exists_mem_pair (asin_roots_complete eta0 _ (Real.abs_sin_le_one _) rfl)
  have hsm := (isSmall_cos_congr (hsame.1.trans (sin_arcsin_of_abs_le (Real.abs_sin_le_one _)).symm)).trans hgen
  unfold sampleConPhi
  dsimp only
  rw [(gen_rot_senses phi).2.2.2.2.2, hp.inv_eq, hV, mec_entries]
  dsimp only
  rw [boundAsin_eq (Real.abs_sin_le_one _), tryAssert_ok]
  simp only [rs_cos, rs_atan2, rs_pi, hgen, Bool.false_eq_true, if_false]
  refine ⟨_, rfl, _, List.mem_map.mpr ⟨eta', hmem, rfl⟩, ?_, hsame, ?_, rfl⟩
  · rw [← hsame.2, mul_comm (Real.sin mu0), mul_comm (Real.cos mu0)]; exact sameAngle_atan2_sign hsm
  · rw [← hsame.2]; exact sameAngle_atan2_sign (a := chi0) hsm

/-- **completeness of `__calc_sample_from_chi_eta`**: with `eta` and `chi` in hand, `mu` and `phi` are recovered modulo 2π -/
theorem sampleFromChiEta_complete (mu0 eta chi phi0 : ℝ)
    (hD : Real.sin eta ^ 2 * Real.sin chi ^ 2 + Real.cos chi ^ 2 ≠ 0)
    (hE : Real.sin eta ^ 2 + Real.cos eta ^ 2 * Real.cos chi ^ 2 ≠ 0)
    (hsm : (Scalar.isSmall ((C04.Z mu0 eta chi phi0).a22 * Real.sin eta * Real.sin chi + (C04.Z mu0 eta chi phi0).a12 * Real.cos chi) &&
            Scalar.isSmall (-(C04.Z mu0 eta chi phi0).a22 * Real.cos chi + (C04.Z mu0 eta chi phi0).a12 * Real.sin eta * Real.sin chi)) = false) :
    ∃ t, sampleFromChiEta chi eta (C04.Z mu0 eta chi phi0) = .ok [t] ∧
      SameAngle t.1 mu0 ∧ t.2.1 = eta ∧ t.2.2.1 = chi ∧ SameAngle t.2.2.2 phi0 := by
  obtain ⟨z00, z01, _, z12, z22⟩ := Z_entries_row0_col2 mu0 eta chi phi0
  unfold sampleFromChiEta
  simp only [rs_sin, rs_cos, rs_atan2]
  rw [hsm]
  simp only [Bool.false_eq_true, if_false]
  -- the arguments of the two `atan2` are `D·(sin μ₀, cos μ₀)` and `E·(sin φ₀, cos φ₀)` with the positive `D`, `E` of `hD`, `hE`
  refine ⟨_, rfl, ?_, rfl, rfl, ?_⟩
  · refine sameAngle_atan2 _ _ _ mu0 (hD.symm.lt_of_le (add_nonneg (mul_nonneg (sq_nonneg _) (sq_nonneg _)) (sq_nonneg _))) ?_ ?_
    · rw [z22, z12]; ring
    · rw [z22, z12]; ring
  · refine sameAngle_atan2 _ _ _ phi0 (hE.symm.lt_of_le (add_nonneg (sq_nonneg _) (mul_nonneg (sq_nonneg _) (sq_nonneg _)))) ?_ ?_
    · rw [z00, z01]; ring
    · rw [z00, z01]; ring

/-- the pair of tests that makes `__calc_sample_from_chi_eta` give up -/
def chiEtaDegenerate (chi eta : ℝ) (Z : M3 ℝ) : Bool :=
  Scalar.isSmall (Z.a22 * Real.sin eta * Real.sin chi + Z.a12 * Real.cos chi) && Scalar.isSmall (-Z.a22 * Real.cos chi + Z.a12 * Real.sin eta * Real.sin chi)

theorem sampleFromChiEta_total (chi eta : ℝ) (Z : M3 ℝ) (h : chiEtaDegenerate chi eta Z = false) : ∃ l, sampleFromChiEta chi eta Z = .ok l := by
  unfold sampleFromChiEta
  simp only [rs_sin, rs_cos]
  unfold chiEtaDegenerate at h
  rw [h]
  exact ⟨_, rfl⟩

/-- **completeness of `__calc_sample_con_chi`** (detector + reference + chi given): both eta roots are tried, and the one that belongs to the given
    position brings mu and phi with it — provided neither root runs into the degenerate test of `__calc_sample_from_chi_eta` -/
theorem sampleConChi_complete (chi : ℝ) (N_lab N_phi : M3 ℝ) (hp : IsRot N_phi)
    (mu0 eta0 phi0 : ℝ) (hF : FullSpec N_lab N_phi (mu0, eta0, chi, phi0))
    (hsc : Scalar.isSmall (Real.sin chi) = false)
    (hall : ∀ e ∈ [Real.arccos (Real.cos eta0), -Real.arccos (Real.cos eta0)], chiEtaDegenerate chi e (C04.Z mu0 eta0 chi phi0) = false)
    (hD : Real.sin eta0 ^ 2 * Real.sin chi ^ 2 + Real.cos chi ^ 2 ≠ 0)
    (hE : Real.sin eta0 ^ 2 + Real.cos eta0 ^ 2 * Real.cos chi ^ 2 ≠ 0) :
    ∃ l, sampleConChi chi N_lab N_phi = .ok l ∧
      ∃ t ∈ l, SameAngle t.1 mu0 ∧ SameAngle t.2.1 eta0 ∧ t.2.2.1 = chi ∧ SameAngle t.2.2.2 phi0 := by
  have hZ : M3.mul N_lab (M3.transpose N_phi) = C04.Z mu0 eta0 chi phi0 := (hp.mul_eq_iff'.mp hF).symm
  obtain ⟨eta', hm, hsame⟩ := exists_mem_pair (acos_roots_complete eta0 _ (Real.abs_cos_le_one _) rfl)
  have hZ' : C04.Z mu0 eta0 chi phi0 = C04.Z mu0 eta' chi phi0 := (Z_congr mu0 mu0 eta' eta0 chi phi0 (sameAngle_refl _) hsame).symm
  obtain ⟨t, ht, h1, h2, h3, h4⟩ := sampleFromChiEta_complete mu0 eta' chi phi0 (by rw [hsame.1]; exact hD) (by rw [hsame.1, hsame.2]; exact hE)
    (by have := hall eta' hm; rwa [hZ', chiEtaDegenerate] at this)
  unfold sampleConChi
  simp only [rs_sin, hsc, Bool.false_eq_true, if_false]
  rw [hZ, (Z_entries_row0_col2 mu0 eta0 chi phi0).2.2.1, mul_div_cancel_right₀ _ (C01.not_small_ne_zero hsc),
    boundAcos_eq (Real.abs_cos_le_one _), tryAssert_ok]
  exact yields_forM' (fun e he => sampleFromChiEta_total chi e _ (hall e he)) hm
    ⟨_, by rw [hZ']; exact ht, t, List.mem_singleton.mpr rfl, h1, by rw [h2]; exact hsame, h3, h4⟩

/-- **completeness of `__calc_sample_con_eta`** (detector + reference + eta given) -/
theorem sampleConEta_complete (eta : ℝ) (N_lab N_phi : M3 ℝ) (hp : IsRot N_phi)
    (mu0 chi0 phi0 : ℝ) (hF : FullSpec N_lab N_phi (mu0, eta, chi0, phi0))
    (hce : Scalar.isSmall (Real.cos eta) = false)
    (hall : ∀ x ∈ [Real.arcsin (Real.sin chi0), Real.pi - Real.arcsin (Real.sin chi0)], chiEtaDegenerate x eta (C04.Z mu0 eta chi0 phi0) = false)
    (hD : Real.sin eta ^ 2 * Real.sin chi0 ^ 2 + Real.cos chi0 ^ 2 ≠ 0)
    (hE : Real.sin eta ^ 2 + Real.cos eta ^ 2 * Real.cos chi0 ^ 2 ≠ 0) :
    ∃ l, sampleConEta eta N_lab N_phi = .ok l ∧
      ∃ t ∈ l, SameAngle t.1 mu0 ∧ t.2.1 = eta ∧ SameAngle t.2.2.1 chi0 ∧ SameAngle t.2.2.2 phi0 := by
  have hZ : M3.mul N_lab (M3.transpose N_phi) = C04.Z mu0 eta chi0 phi0 := (hp.mul_eq_iff'.mp hF).symm
  obtain ⟨chi', hm, hsame⟩ := exists_mem_pair (asin_roots_complete chi0 _ (Real.abs_sin_le_one _) rfl)
  have hZ' : C04.Z mu0 eta chi0 phi0 = C04.Z mu0 eta chi' phi0 := (Z_congr_chi mu0 eta chi' chi0 phi0 hsame).symm
  obtain ⟨t, ht, h1, h2, h3, h4⟩ := sampleFromChiEta_complete mu0 eta chi' phi0 (by rw [hsame.1, hsame.2]; exact hD) (by rw [hsame.2]; exact hE)
    (by have := hall chi' hm; rwa [hZ', chiEtaDegenerate] at this)
  unfold sampleConEta
  simp only [rs_cos, rs_pi, hce, Bool.false_eq_true, if_false]
  rw [hZ, (Z_entries_row0_col2 mu0 eta chi0 phi0).2.2.1, mul_div_cancel_left₀ _ (C01.not_small_ne_zero hce),
    boundAsin_eq (Real.abs_sin_le_one _), tryAssert_ok]
  exact yields_forM' (fun x hx => sampleFromChiEta_total x eta _ (hall x hx)) hm
    ⟨_, by rw [hZ']; exact ht, t, List.mem_singleton.mpr rfl, h1, h2, by rw [h3]; exact hsame, h4⟩

/-- four sample angles equal modulo 2π, component by component -/
def SameTuple (t t0 : STuple ℝ) : Prop :=
  SameAngle t.1 t0.1 ∧ SameAngle t.2.1 t0.2.1 ∧ SameAngle t.2.2.1 t0.2.2.1 ∧ SameAngle t.2.2.2 t0.2.2.2

/-- the given position carries the constrained axis, and the branch that handles it is on its generic side -/
def Samp1CompleteGeneric (s : Samp1 ℝ) (t0 : STuple ℝ) : Prop :=
  match s with
  | .mu v => t0.1 = v ∧ Scalar.isSmall (Real.sin (Real.arccos (Real.cos t0.2.2.1))) = false
  | .phi v => t0.2.2.2 = v ∧ Scalar.isSmall (Real.cos (Real.arcsin (Real.sin t0.2.1))) = false
  | .chi v => t0.2.2.1 = v ∧ Scalar.isSmall (Real.sin v) = false ∧
      (∀ e ∈ [Real.arccos (Real.cos t0.2.1), -Real.arccos (Real.cos t0.2.1)], chiEtaDegenerate v e (C04.Z t0.1 t0.2.1 v t0.2.2.2) = false) ∧
      Real.sin t0.2.1 ^ 2 * Real.sin v ^ 2 + Real.cos v ^ 2 ≠ 0 ∧ Real.sin t0.2.1 ^ 2 + Real.cos t0.2.1 ^ 2 * Real.cos v ^ 2 ≠ 0
  | .eta v => t0.2.1 = v ∧ Scalar.isSmall (Real.cos v) = false ∧
      (∀ x ∈ [Real.arcsin (Real.sin t0.2.2.1), Real.pi - Real.arcsin (Real.sin t0.2.2.1)], chiEtaDegenerate x v (C04.Z t0.1 v t0.2.2.1 t0.2.2.2) = false) ∧
      Real.sin v ^ 2 * Real.sin t0.2.2.1 ^ 2 + Real.cos t0.2.2.1 ^ 2 ≠ 0 ∧ Real.sin v ^ 2 + Real.cos v ^ 2 * Real.cos t0.2.2.1 ^ 2 ≠ 0

/-- the branch dispatch of `_calc_remaining_sample_angles` once the laboratory triad is known -/
theorem remainingBranch_complete (s : Samp1 ℝ) (N_phi N_lab : M3 ℝ) (hl : IsRot N_lab) (hp : IsRot N_phi)
    (t0 : STuple ℝ) (hF : FullSpec N_lab N_phi t0) (hgen : Samp1CompleteGeneric s t0) :
    ∃ l, (match s with
        | .mu v => sampleConMu v N_lab N_phi
        | .phi v => sampleConPhi v N_lab N_phi
        | .eta v => sampleConEta v N_lab N_phi
        | .chi v => sampleConChi v N_lab N_phi) = .ok l ∧ ∃ t ∈ l, SameTuple t t0 := by
  obtain ⟨mu0, eta0, chi0, phi0⟩ := t0
  cases s with
  | mu v =>
    obtain ⟨rfl, hg⟩ := hgen
    exact Yields.mono (sampleConMu_complete mu0 N_lab N_phi hl hp eta0 chi0 phi0 hF hg) fun t ⟨h1, h2, h3, h4⟩ => ⟨sameAngle_of_eq h1, h2, h3, h4⟩
  | phi v =>
    obtain ⟨rfl, hg⟩ := hgen
    exact Yields.mono (sampleConPhi_complete phi0 N_lab N_phi hp mu0 eta0 chi0 hF hg) fun t ⟨h1, h2, h3, h4⟩ => ⟨h1, h2, h3, sameAngle_of_eq h4⟩
  | chi v =>
    obtain ⟨rfl, hsc, hall, hD, hE⟩ := hgen
    exact Yields.mono (sampleConChi_complete chi0 N_lab N_phi hp mu0 eta0 phi0 hF hsc hall hD hE) fun t ⟨h1, h2, h3, h4⟩ => ⟨h1, h2, sameAngle_of_eq h3, h4⟩
  | eta v =>
    obtain ⟨rfl, hce, hall, hD, hE⟩ := hgen
    exact Yields.mono (sampleConEta_complete eta0 N_lab N_phi hp mu0 chi0 phi0 hF hce hall hD hE) fun t ⟨h1, h2, h3, h4⟩ => ⟨h1, sameAngle_of_eq h2, h3, h4⟩

/-- **completeness of `_calc_remaining_sample_angles`** (all four single-sample branches): whenever `_calc_N` delivers the laboratory triad, any
    position satisfying the full orientation equation `Z·N_phi = N_lab` with the constrained axis at its value is returned modulo 2π -/
theorem remainingSample_complete (s : Samp1 ℝ) (theta alpha qaz : ℝ) (naz : Option ℝ) (N_phi N_lab : M3 ℝ) (hl : IsRot N_lab) (hp : IsRot N_phi)
    (hN : calcN (qDir theta qaz) (C01.nLab alpha naz) = .ok N_lab)
    (t0 : STuple ℝ) (hF : FullSpec N_lab N_phi t0) (hgen : Samp1CompleteGeneric s t0) :
    ∃ l, remainingSample s theta alpha qaz naz N_phi = .ok l ∧ ∃ t ∈ l, SameTuple t t0 := by
  obtain ⟨l, hlk, ht⟩ := remainingBranch_complete s N_phi N_lab hl hp t0 hF hgen
  unfold remainingSample
  simp only [rs_cos, rs_sin, rs_zero]
  cases naz <;> exact yields_bind hN ⟨l, by cases s <;> exact hlk, ht⟩

/-! ## three sample angles: the free one (`__get_last_sample_angle`) -/

/-- **completeness of `__get_last_sample_angle`**: any value of the free axis that puts the y-component of `Z·ĥ` at `−sin θ` is one of the
    returned values modulo 2π (generic branch: the two roots do not coincide) -/
theorem lastSampleAngle_complete (free : Free) (mu eta chi phi : ℝ) (h : V3 ℝ) (hh : V3.norm h = 1) (theta v0 : ℝ)
    (hy : (M3.mulVec (C04.Z (assign free mu eta chi phi v0).1 (assign free mu eta chi phi v0).2.1 (assign free mu eta chi phi v0).2.2.1
      (assign free mu eta chi phi v0).2.2.2) h).y = -Real.sin theta)
    (hAB : (Scalar.isSmall (lastABC free mu eta chi phi h theta).1 && Scalar.isSmall (lastABC free mu eta chi phi h theta).2.1) = false)
    (hgen : Scalar.isSmall (Real.arccos ((lastABC free mu eta chi phi h theta).2.2 /
      Scalar.hypot (lastABC free mu eta chi phi h theta).1 (lastABC free mu eta chi phi h theta).2.1)) = false) :
    ∃ l, lastSampleAngle free mu eta chi phi h theta = .ok l ∧ ∃ v ∈ l, SameAngle v v0 := by
  rcases hABC : lastABC free mu eta chi phi h theta with ⟨A, B, C⟩
  rw [hABC] at hAB hgen
  have hr := hypot_pos_of_not_small hAB
  obtain ⟨hclip, hroot⟩ := (acos_branch_iff hr C v0).mp (by linear_combination hy - lastABC_spec hh hABC v0)
  unfold lastSampleAngle
  rw [hABC]
  simp only [hAB, bind, Except.bind, boundAcos_eq hclip, rs_atan2, hgen, Bool.false_eq_true, if_false, pure, Except.pure]
  exact ⟨_, rfl, exists_mem_pair hroot⟩

theorem assign_same (free : Free) (mu eta chi phi v v' : ℝ) (h : SameAngle v v') :
    C04.Z (assign free mu eta chi phi v).1 (assign free mu eta chi phi v).2.1 (assign free mu eta chi phi v).2.2.1 (assign free mu eta chi phi v).2.2.2 =
    C04.Z (assign free mu eta chi phi v').1 (assign free mu eta chi phi v').2.1 (assign free mu eta chi phi v').2.2.1 (assign free mu eta chi phi v').2.2.2 := by
  cases free <;> simp only [assign]
  · exact Z_congr _ _ _ _ _ _ h (sameAngle_refl _)
  · exact Z_congr _ _ _ _ _ _ (sameAngle_refl _) h
  · exact Z_congr_chi _ _ _ _ _ h
  · exact Z_congr_phi _ _ _ _ _ h

/-- **completeness of `_calc_three_sample`** (all four free axes): a position that carries the three given sample angles, satisfies the sample
    relation for some qaz and the detector relation for that qaz is among the candidates, modulo 2π in the free sample angle and in the
    detector angles (generic branch of each layer) -/
theorem threeSample_complete (free : Free) (mu eta chi phi : ℝ) (h : V3 ℝ) (hh : V3.norm h = 1) (theta : ℝ)
    (hct : Scalar.isSmall (Real.cos theta) = false)
    (v0 qaz0 delta0 nu0 : ℝ)
    (hS : SampleSpec h theta qaz0 (assign free mu eta chi phi v0)) (hD : DetSpec delta0 nu0 qaz0 theta)
    (hcd : Scalar.isSmall (Real.cos delta0) = false)
    (hAB : (Scalar.isSmall (lastABC free mu eta chi phi h theta).1 && Scalar.isSmall (lastABC free mu eta chi phi h theta).2.1) = false)
    (hgen : Scalar.isSmall (Real.arccos ((lastABC free mu eta chi phi h theta).2.2 /
      Scalar.hypot (lastABC free mu eta chi phi h theta).1 (lastABC free mu eta chi phi h theta).2.1)) = false) :
    ∃ l, threeSample free mu eta chi phi h theta = .ok l ∧
      ∃ s ∈ l, ∃ v, SameAngle v v0 ∧ (s.1, s.2.2.2.1, s.2.2.2.2.1, s.2.2.2.2.2) = assign free mu eta chi phi v ∧
        SameAngle s.2.1 delta0 ∧ SameAngle s.2.2.1 nu0 := by
  unfold SampleSpec at hS
  obtain ⟨vals, hvals, v, hv, hsame⟩ := lastSampleAngle_complete free mu eta chi phi h hh theta v0 (by rw [hS]; rfl) hAB hgen
  unfold threeSample
  rw [hvals, tryAssert_ok]
  refine ⟨_, rfl, ?_⟩
  -- the candidate built from v satisfies the sample relation at the qaz that `__get_qaz_value` reads off, which is therefore qaz₀
  have hZ := assign_same free mu eta chi phi v v0 hsame
  rcases ha : assign free mu eta chi phi v with ⟨m', e', c', p'⟩
  rw [ha] at hZ
  have hq := qazValue_sound m' e' c' p' h hh theta hct (by rw [hZ, hS]; rfl)
  rw [hZ, hS] at hq
  have hqs := qDir_inj theta qaz0 _ (C01.not_small_ne_zero hct) hq
  obtain ⟨⟨dl, nu', qz⟩, hd, hd1, hd2, _⟩ := detFromQaz_complete delta0 nu0 _ theta (detSpec_congr _ _ _ _ _ hqs hD) hcd
  refine ⟨(m', dl, nu', e', c', p'), List.mem_flatMap.mpr ⟨v, hv, ?_⟩, v, hsame, ha.symm, hd1, hd2⟩
  -- whichever axis is free, `assign` puts `v` there and leaves the other three, which is how the candidate is built
  cases free
  all_goals
    simp only [assign] at ha
    cases ha
    exact List.mem_map.mpr ⟨(dl, nu', qz), hd, rfl⟩

/-! ## names this property's check refers to; each restates a fact proved elsewhere -/

theorem inner_of_sampleSpec (mu eta chi phi : ℝ) (h q : V3 ℝ) (hS : M3.mulVec (C04.Z mu eta chi phi) h = q) :
    inner chi phi h = outerInv mu eta q := (sampleSpec_iff_inner mu eta chi phi h q).mp hS

theorem eta_of_sampleSpec (mu eta chi phi : ℝ) (h q : V3 ℝ) (hS : M3.mulVec (C04.Z mu eta chi phi) h = q) :
    M3.mulVec (rotZ (-eta)) (inner chi phi h) = M3.mulVec (M3.transpose (rotX mu)) q := (sampleSpec_iff_eta mu eta chi phi h q).mp hS

theorem mid_of_sampleSpec (mu eta chi phi : ℝ) (h q : V3 ℝ) (hS : M3.mulVec (C04.Z mu eta chi phi) h = q) :
    M3.mulVec (M3.mul (rotZ (-eta)) (rotY chi)) (M3.mulVec (rotZ (-phi)) h) = M3.mulVec (M3.transpose (rotX mu)) q :=
  (sampleSpec_iff_mid mu eta chi phi h q).mp hS

theorem forM'_complete {β γ : Type} (xs : List β) (f : β → Py (List γ)) (hall : ∀ x ∈ xs, ∃ lx, f x = .ok lx) :
    ∃ l, forM' xs f = .ok l ∧ ∀ x ∈ xs, ∀ lx, f x = .ok lx → ∀ y ∈ lx, y ∈ l :=
  forM'_total hall

end
end C03
