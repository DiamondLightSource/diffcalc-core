import DiffcalcProofs.Props.C01
/-!
# C01 — the detector layers from delta and from nu are exact (`calc_detector.py`)

Every `(delta, nu, qaz)` returned by `_calc_remaining_detector_angles_delta` / `_nu` satisfies the detector relation, on the generic branch
(arguments of `asin` / `acos` not clipped, the quantities whose signs are compared not within 1e-7 of zero).  Either function solves two
of the three equations by a pair of roots each; the third then holds in squares (`det_unit`, `qaz_unit`), and the sign filter over the
four pairs is exactly that equation.
-/
namespace C01
open M3 Solver Scalar PyOps
noncomputable section

section relation
variable {delta nu qaz theta : ℝ}

/-- delta given: with the first and third equation in place, the sign filter of `_calc_remaining_detector_angles_delta` is the second -/
theorem detSpec_iff_sign_delta (hcd : Scalar.isSmall (Real.cos delta) = false) (hs2 : Scalar.isSmall (Real.sin (2 * theta)) = false)
    (hcq : Scalar.isSmall (Real.cos qaz) = false) (hsn : Scalar.isSmall (Real.sin nu) = false)
    (e1 : Real.sin delta = Real.sin (2 * theta) * Real.sin qaz) (e3 : Real.cos delta * Real.cos nu = Real.cos (2 * theta)) :
    DetSpec delta nu qaz theta ↔
      (Scalar.sign (Real.sin (2 * theta)) : ℝ) * Scalar.sign (Real.cos qaz) = Scalar.sign (Real.sin nu) * Scalar.sign (Real.cos delta) := by
  have hu := qaz_unit theta qaz
  rw [← e1, ← e3] at hu
  rw [← mul_eq_mul_iff_sign hs2 hcq hsn hcd (by linear_combination hu - det_unit delta nu)]
  exact ⟨fun h => by rw [← h.2.1, mul_comm], fun h => ⟨e1, by rw [h, mul_comm], e3⟩⟩

/-- nu given: with the second and third equation in place, the sign filter of `_calc_remaining_detector_angles_nu` is the first -/
theorem detSpec_iff_sign_nu (hsd : Scalar.isSmall (Real.sin delta) = false) (hsq : Scalar.isSmall (Real.sin qaz) = false)
    (hs2 : Scalar.isSmall (Real.sin (2 * theta)) = false)
    (e2 : Real.cos delta * Real.sin nu = Real.sin (2 * theta) * Real.cos qaz) (e3 : Real.cos delta * Real.cos nu = Real.cos (2 * theta)) :
    DetSpec delta nu qaz theta ↔
      (Scalar.sign (Real.sin delta) : ℝ) = Scalar.sign (Real.sin qaz) * Scalar.sign (Real.sin (2 * theta)) := by
  have hu := qaz_unit theta qaz
  rw [← e2, ← e3] at hu
  rw [← eq_mul_iff_sign hsd hsq hs2 (by linear_combination det_unit delta nu - hu)]
  exact ⟨fun h => by rw [h.1, mul_comm], fun h => ⟨by rw [h, mul_comm], e2, e3⟩⟩
end relation

/-! ## from delta and from nu: two pairs of roots and a sign filter -/

/-- what `_calc_remaining_detector_angles_delta` returns on its generic branch; `x`, `y` are the arguments of its `asin` and `acos` -/
theorem detFromDelta_eq {delta theta x y : ℝ} (hx : Real.sin delta / Real.sin (2 * theta) = x) (hy : Real.cos (2 * theta) / Real.cos delta = y)
    (hcd : Scalar.isSmall (Real.cos delta) = false) (hclipq : |x| ≤ 1) (hclipn : |y| ≤ 1)
    (hgq : Scalar.isSmall (Real.cos (Real.arcsin x)) = false) (hgn : Scalar.isSmall (Real.arccos y) = false) :
    detFromDelta delta theta = .ok
      (([Real.arcsin x, Real.pi - Real.arcsin x].flatMap fun q => [Real.arccos y, -Real.arccos y].map fun n => (q, n)).filterMap
        fun p : ℝ × ℝ => if (Scalar.sign (Real.sin (2 * theta)) * Scalar.sign (Real.cos p.1) : ℝ) =
          Scalar.sign (Real.sin p.2) * Scalar.sign (Real.cos delta) then some (delta, p.2, p.1) else none) := by
  subst hx hy
  unfold detFromDelta acosNu
  simp only [rs_sin, rs_cos, rs_two, rs_pi, rs_zero, rs_beq, decide_eq_true_eq, boundAsin_eq hclipq, boundAcos_eq hclipn, hcd, hgq, hgn,
    Bool.false_eq_true, if_false, bind, Except.bind, pure, Except.pure, catchAssert]

/-- **detector layer from delta** -/
theorem detFromDelta_sound (delta theta : ℝ) (hcd : Scalar.isSmall (Real.cos delta) = false)
    (hs2 : Scalar.isSmall (Real.sin (2 * theta)) = false)
    (hclipq : |Real.sin delta / Real.sin (2 * theta)| ≤ 1) (hclipn : |Real.cos (2 * theta) / Real.cos delta| ≤ 1)
    (hgq : Scalar.isSmall (Real.cos (Real.arcsin (Real.sin delta / Real.sin (2 * theta)))) = false)
    (hgn : Scalar.isSmall (Real.arccos (Real.cos (2 * theta) / Real.cos delta)) = false) :
    AllOk (fun t : ℝ × ℝ × ℝ => Scalar.isSmall (Real.sin t.2.1) = false → DetSpec t.1 t.2.1 t.2.2 theta) (detFromDelta delta theta) := by
  rw [detFromDelta_eq rfl rfl hcd hclipq hclipn hgq hgn]
  apply allOk_ok
  intro t ht hsn
  obtain ⟨⟨qaz, nu⟩, hp, hsome⟩ := List.mem_filterMap.mp ht
  obtain ⟨hsg, ⟨⟩⟩ := Option.ite_none_right_eq_some.mp hsome
  obtain ⟨hq, hn⟩ := mem_pairs.mp hp
  obtain ⟨hsq, hcq⟩ := sin_of_mem_asin_pair hclipq hq
  exact (detSpec_iff_sign_delta hcd hs2 (by rw [isSmall_of_abs_eq hcq]; exact hgq) hsn
    (by rw [hsq, mul_div_cancel₀ _ (not_small_ne_zero hs2)])
    (by rw [cos_of_mem_acos_pair hclipn hn, mul_div_cancel₀ _ (not_small_ne_zero hcd)])).mpr hsg

/-- what `_calc_remaining_detector_angles_nu` returns on its generic branch; `x`, `y` are the arguments of its two `acos` (delta, qaz) -/
theorem detFromNu_eq {nu theta x y : ℝ} (hx : Real.cos (2 * theta) / Real.cos nu = x) (hy : x * Real.sin nu / Real.sin (2 * theta) = y)
    (hcn : Scalar.isSmall (Real.cos nu) = false) (hclipd : |x| ≤ 1) (hclipq : |y| ≤ 1)
    (hgd : Scalar.isSmall (Real.arccos x) = false) (hgq : Scalar.isSmall (Real.arccos y) = false) :
    detFromNu nu theta = .ok
      (([Real.arccos y, -Real.arccos y].flatMap fun q => [Real.arccos x, -Real.arccos x].map fun d => (q, d)).filterMap
        fun p : ℝ × ℝ => if (Scalar.sign (Real.sin p.2) : ℝ) = Scalar.sign (Real.sin p.1) * Scalar.sign (Real.sin (2 * theta))
          then some (p.2, nu, p.1) else none) := by
  subst hx hy
  unfold detFromNu
  simp only [rs_sin, rs_cos, rs_two, rs_zero, rs_beq, decide_eq_true_eq, boundAcos_eq hclipd, boundAcos_eq hclipq, hcn, hgd, hgq,
    Bool.false_eq_true, if_false, bind, Except.bind, pure, Except.pure, catchAssert]

/-- **detector layer from nu** -/
theorem detFromNu_sound (nu theta : ℝ)
    (hs2 : Scalar.isSmall (Real.sin (2 * theta)) = false)
    (hclipd : |Real.cos (2 * theta) / Real.cos nu| ≤ 1)
    (hclipq : |Real.cos (2 * theta) / Real.cos nu * Real.sin nu / Real.sin (2 * theta)| ≤ 1)
    (hgd : Scalar.isSmall (Real.arccos (Real.cos (2 * theta) / Real.cos nu)) = false)
    (hgq : Scalar.isSmall (Real.arccos (Real.cos (2 * theta) / Real.cos nu * Real.sin nu / Real.sin (2 * theta))) = false) :
    AllOk (fun t : ℝ × ℝ × ℝ => Scalar.isSmall (Real.sin t.1) = false → Scalar.isSmall (Real.sin t.2.2) = false → DetSpec t.1 t.2.1 t.2.2 theta)
      (detFromNu nu theta) := by
  cases hcn : Scalar.isSmall (Real.cos nu)
  case true => unfold detFromNu; simp only [rs_cos, hcn, if_true]; exact allOk_error _
  rw [detFromNu_eq rfl rfl hcn hclipd hclipq hgd hgq]
  apply allOk_ok
  intro t ht hsd hsq
  obtain ⟨⟨qaz, delta⟩, hp, hsome⟩ := List.mem_filterMap.mp ht
  obtain ⟨hsg, ⟨⟩⟩ := Option.ite_none_right_eq_some.mp hsome
  obtain ⟨hq, hd⟩ := mem_pairs.mp hp
  have hcd := cos_of_mem_acos_pair hclipd hd
  exact (detSpec_iff_sign_nu hsd hsq hs2 (by rw [cos_of_mem_acos_pair hclipq hq, hcd, mul_div_cancel₀ _ (not_small_ne_zero hs2)])
    (by rw [hcd, div_mul_cancel₀ _ (not_small_ne_zero hcn)])).mpr hsg

/-- the detector layer for every detector constraint: generic side conditions -/
def DetGeneric (d : DetCon ℝ) (theta : ℝ) : Prop :=
  match d with
  | .qaz _ => True
  | .delta delta => Scalar.isSmall (Real.cos delta) = false ∧ Scalar.isSmall (Real.sin (2 * theta)) = false ∧
      |Real.sin delta / Real.sin (2 * theta)| ≤ 1 ∧ |Real.cos (2 * theta) / Real.cos delta| ≤ 1 ∧
      Scalar.isSmall (Real.cos (Real.arcsin (Real.sin delta / Real.sin (2 * theta)))) = false ∧
      Scalar.isSmall (Real.arccos (Real.cos (2 * theta) / Real.cos delta)) = false
  | .nu nu => Scalar.isSmall (Real.sin (2 * theta)) = false ∧ |Real.cos (2 * theta) / Real.cos nu| ≤ 1 ∧
      |Real.cos (2 * theta) / Real.cos nu * Real.sin nu / Real.sin (2 * theta)| ≤ 1 ∧
      Scalar.isSmall (Real.arccos (Real.cos (2 * theta) / Real.cos nu)) = false ∧
      Scalar.isSmall (Real.arccos (Real.cos (2 * theta) / Real.cos nu * Real.sin nu / Real.sin (2 * theta))) = false

/-- **the detector layer is exact for each of the three detector constraints** (`_calc_remaining_detector_angles`) -/
theorem detRemaining_sound (d : DetCon ℝ) (theta : ℝ) (hgen : DetGeneric d theta) :
    AllOk (fun t : ℝ × ℝ × ℝ => Scalar.isSmall (Real.cos t.1) = false → Scalar.isSmall (Real.sin t.1) = false →
        Scalar.isSmall (Real.sin t.2.1) = false → Scalar.isSmall (Real.sin t.2.2) = false → DetSpec t.1 t.2.1 t.2.2 theta)
      (detRemaining d theta) := by
  cases d with
  | qaz v => exact allOk_ok fun t ht h1 _ _ _ => detFromQaz_sound v theta t ht h1
  | delta v =>
    obtain ⟨a, b, c, d', e, f⟩ := hgen
    exact allOk_mono (detFromDelta_sound v theta a b c d' e f) (fun t ht _ _ h3 _ => ht h3)
  | nu v =>
    obtain ⟨a, b, c, d', e⟩ := hgen
    exact allOk_mono (detFromNu_sound v theta a b c d' e) (fun t ht _ h2 _ h4 => ht h2 h4)

/-! ## names this property's check refers to; each restates a fact proved elsewhere -/

theorem eq_of_sq_eq_of_sign (a b c d : ℝ) (ha : Scalar.isSmall a = false) (hb : Scalar.isSmall b = false)
    (hc : Scalar.isSmall c = false) (hd : Scalar.isSmall d = false)
    (hsq : (a * b) ^ 2 = (c * d) ^ 2)
    (hsg : (Scalar.sign a : ℝ) * Scalar.sign b = Scalar.sign c * Scalar.sign d) : a * b = c * d :=
  (mul_eq_mul_iff_sign ha hb hc hd hsq).mpr hsg

end
end C01
