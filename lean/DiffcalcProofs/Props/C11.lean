import DiffcalcProofs.Props.C06
import DiffcalcProofs.Props.C04
import DiffcalcProofs.Props.C02
/-!
# C11 — queries fail only with DiffcalcException (finite-real reading of the solver model)

Model: `Diffcalc/Solver/*.lean` (hand, tie H).  `NoLeak m`: if `m` fails it fails with DiffcalcException.
Assembled function by function: every `asin/acos` sits behind `bound`, every `bound` inside the generators sits
inside a `try … except AssertionError`, the layers only re-raise what the layers below raise.  The branches of the sample, detector
and reference layers are walked in C02.lean, together with the pass-through of the constrained axes (`Tame`).

What this reading cannot exhibit: inf/NaN produced by numpy division by an exact zero — those points are executed
on the real code by the check (special-value stream); the theorems are about finite real arithmetic.
-/
namespace C11
open Solver PyOps
noncomputable section

/-! ## sample, reference and detector layer -/

/-- `_calc_N` never fails on finite vectors (real reading) -/
theorem calcN_total (Q n : V3 ℝ) : ∃ N, calcN Q n = .ok N :=
  bind_total (angleBetween_eq _ _) ⟨_, rfl⟩

theorem noLeak_twoSampleDetector (s : Samp2Det ℝ) (qaz theta : ℝ) (N : M3 ℝ) : NoLeak (twoSampleDetector s qaz theta N) :=
  (C02.tame_twoSampleDetector s qaz theta N).noLeak

theorem noLeak_remainingSample (s : Samp1 ℝ) (theta alpha qaz : ℝ) (naz : Option ℝ) (N : M3 ℝ) :
    NoLeak (remainingSample s theta alpha qaz naz N) :=
  (C02.tame_remainingSample s theta alpha qaz naz N).noLeak

theorem noLeak_twoSampleReference (s : Samp2Ref ℝ) (psi theta : ℝ) (N : M3 ℝ) : NoLeak (twoSampleReference s psi theta N) :=
  (C02.tame_twoSampleReference s psi theta N).noLeak

/-- `_calc_detector_con_det_or_naz` under its own precondition (a detector or naz constraint is present — guaranteed by the dispatcher) -/
theorem noLeak_detOrNaz (det : Option (DetCon ℝ)) (naz : Option ℝ) (theta : ℝ) (tau : Option ℝ) (alpha : ℝ)
    (hpre : det.isSome ∨ naz.isSome) : NoLeak (detOrNaz det naz theta tau alpha) := by
  have hnq : OnlyAD (nazQazAngle theta alpha tau) :=
    onlyAD_ite (onlyAD_ok _) <| by
      cases tau with
      | none => exact onlyAD_ok _
      | some t => exact onlyAD_ite (onlyAD_ok _) <| onlyAD_bind (onlyAD_boundAcos _) fun _ _ => onlyAD_ok _
  unfold detOrNaz
  rw [if_neg (by cases det <;> cases naz <;> simp_all)]
  refine noLeak_tryAssert hnq fun nq _ => ?_
  cases det with
  | some d => exact noLeak_bind (C02.tame_detRemaining _ _).noLeak fun _ _ => noLeak_ok _
  | none => cases naz <;> exact noLeak_ok _

/-! ## calc_func layer -/

theorem noLeak_threeSample (free : Free) (mu eta chi phi : ℝ) (h : V3 ℝ) (theta : ℝ) :
    NoLeak (threeSample free mu eta chi phi h theta) :=
  noLeak_tryAssert (onlyAD_ite onlyAD_dce <| onlyAD_bind (onlyAD_boundAcos _) fun _ _ => onlyAD_ok _) fun _ _ => noLeak_ok _

theorem noLeak_remainingReference (r : RefCon ℝ) (theta tau : ℝ) : NoLeak (remainingReference r theta tau) := by
  refine noLeak_toDce ?_
  cases r with
  | psi v => exact onlyAD_bind (onlyAD_boundAsin _) fun _ _ => onlyAD_bind (onlyAD_boundAsin _) fun _ _ => onlyAD_ok _
  | a_eq_b | bin_eq_bout | beta v | betaout v => exact onlyAD_boundAsin _
  | alpha v | betain v => exact onlyAD_bind (onlyAD_boundAsin _) fun _ _ => onlyAD_ok _

/-- `_calc_det_sample_reference` for the mode shapes the dispatcher produces -/
theorem noLeak_detSampleReference (det : Option (DetCon ℝ)) (naz : Option ℝ) (samp : SampD ℝ) (h n : V3 ℝ) (theta : ℝ)
    (alpha tau : Option ℝ)
    (hshape : match samp with | .one _ => (det.isSome ∨ naz.isSome) ∧ alpha.isSome | .two _ => True) :
    NoLeak (detSampleReference det naz samp h n theta alpha tau) := by
  refine noLeak_bind (C02.noLeak_calcN _ _) fun N _ => ?_
  cases samp with
  | one s =>
    cases alpha with
    | none => simp at hshape
    | some a =>
      exact noLeak_bind (noLeak_detOrNaz _ _ _ _ _ hshape.1) fun _ _ => noLeak_forM' _ _ fun _ _ =>
        noLeak_bind (noLeak_remainingSample _ _ _ _ _ _) fun _ _ => noLeak_ok _
  | two s =>
    cases det with
    | none => exact noLeak_dce
    | some d =>
      exact noLeak_bind (C02.tame_detRemaining _ _).noLeak fun _ _ => noLeak_forM' _ _ fun _ _ =>
        noLeak_bind (noLeak_twoSampleDetector _ _ _ _) fun _ _ => noLeak_ok _

/-! ## calc.py layer -/

theorem noLeak_nphiAlphaTau (ub : UBIn ℝ) (ref : RefCon ℝ) (h : V3 ℝ) (theta : ℝ) : NoLeak (nphiAlphaTau ub ref h theta) := by
  refine noLeak_bind (noLeak_of_ok (angleBetween_eq _ _)) fun t1 _ => noLeak_bind (noLeak_of_ok (angleBetween_eq _ _)) fun t2 _ => ?_
  dsimp only
  split
  · exact noLeak_dce
  · exact noLeak_dce
  · exact noLeak_ite noLeak_dce <| noLeak_ite
      (noLeak_bind (noLeak_remainingReference _ _ _) fun _ _ => noLeak_ok _)
      (noLeak_bind (noLeak_remainingReference _ _ _) fun _ _ => noLeak_ok _)

/-- the Bragg angle: for an invertible B the only failures are DiffcalcExceptions (zero vector, unreachable reflection) -/
theorem noLeak_ttheta (B : M3 ℝ) (hdet : M3.det B ≠ 0) (hkl : V3 ℝ) (en : ℝ) : NoLeak (CrystalModel.ttheta B hkl en) := by
  unfold CrystalModel.ttheta
  by_cases hz : hkl = ⟨0, 0, 0⟩
  · rw [hz, C06.planeDistance_zero]; exact noLeak_dce
  · have hpos := (V3.norm_pos_iff_ne hkl).mpr hz
    rw [C06.planeDistance_eq B hdet hkl (M3.norm_mulVec_pos (M3.inv_mulVec_cancel B hdet) hkl hpos)]
    dsimp only
    -- what `bound` lets through is within [-1, 1], so the bare `asin` behind it cannot raise
    split
    · exact noLeak_dce
    · rename_i st hst
      rw [pyAsin_eq (bound_ok_abs hst)]
      exact noLeak_ok _

/-- the candidate generation fails only with DiffcalcException, for every implemented mode shape -/
theorem noLeak_candidates (ub : UBIn ℝ) (hdet : M3.det ub.B ≠ 0) (mode : Mode ℝ) (hkl : V3 ℝ) (wl : ℝ)
    (hshape : match mode with | .detRefSamp det naz _ _ => det.isSome ∨ naz.isSome | _ => True) :
    NoLeak (candidates ub mode hkl wl) := by
  refine noLeak_bind (noLeak_ttheta _ hdet _ _) fun tth _ => ?_
  cases mode with
  | detRefSamp det naz ref s =>
    exact noLeak_bind (noLeak_nphiAlphaTau _ _ _ _) fun _ _ => noLeak_detSampleReference _ _ _ _ _ _ _ _ ⟨hshape, rfl⟩
  | detSamp2 det s => exact noLeak_detSampleReference _ _ _ _ _ _ _ _ trivial
  | refSamp2 ref s =>
    refine noLeak_bind (noLeak_nphiAlphaTau _ _ _ _) fun _ _ => noLeak_forM' _ _ fun psi _ => ?_
    cases psi with
    | none => exact noLeak_ok _
    | some p =>
      exact noLeak_bind (C02.noLeak_calcN _ _) fun _ _ => noLeak_bind (noLeak_twoSampleReference _ _ _ _) fun _ _ => noLeak_ok _
  | samp3 free mu eta chi phi => exact noLeak_threeSample _ _ _ _ _ _ _

theorem hklToPosition_noLeak (ub : UBIn ℝ) (hdet : M3.det ub.B ≠ 0) (mode : Mode ℝ) (hkl : V3 ℝ) (wl : ℝ)
    (hshape : match mode with | .detRefSamp det naz _ _ => det.isSome ∨ naz.isSome | _ => True)
    (hva : ∀ p, NoLeak (virtualAngles ub p)) : NoLeak (hklToPosition ub mode hkl wl) :=
  noLeak_bind (noLeak_candidates ub hdet mode hkl wl hshape) fun _ _ => noLeak_ite noLeak_dce <|
    noLeak_bind (noLeak_mapM (fun p => noLeak_bind (hva p) fun _ _ => noLeak_ok _) _) fun _ _ =>
      noLeak_ite noLeak_dce (noLeak_ok _)

/-- **C11 (get_position)**: `get_position` either returns a NON-EMPTY list or raises DiffcalcException — for every
    implemented mode shape and every finite input, provided `get_virtual_angles` does not leak on the candidate positions
    (`virtualAngles_total` below discharges this, whatever the reference vector) -/
theorem getPosition_noLeak (ub : UBIn ℝ) (hdet : M3.det ub.B ≠ 0) (mode : Mode ℝ) (hkl : V3 ℝ) (wl : ℝ)
    (hshape : match mode with | .detRefSamp det naz _ _ => det.isSome ∨ naz.isSome | _ => True)
    (hva : ∀ p, NoLeak (virtualAngles ub p)) : NoLeak (getPosition ub mode hkl wl) :=
  noLeak_bind (hklToPosition_noLeak ub hdet mode hkl wl hshape hva) fun _ _ =>
    noLeak_bind (noLeak_mapM (fun ⟨_, _⟩ => noLeak_ite (noLeak_ok _) noLeak_dce) _) fun _ _ =>
      noLeak_bind (noLeak_mapM (fun ⟨p, _⟩ => hva p) _) fun _ _ => noLeak_ok _

theorem getPosition_nonempty (ub : UBIn ℝ) (mode : Mode ℝ) (hkl : V3 ℝ) (wl : ℝ) (l : List (Pos ℝ × VAngles ℝ))
    (h : getPosition ub mode hkl wl = .ok l) : l ≠ [] :=
  (C02.hklToPosition_ok (C02.getPosition_ok h).1).1

/-! ## `get_virtual_angles` never raises (real reading) -/

/-- the scattered beam direction and the raw scattering vector of a detector setting -/
def kfHat (delta nu : ℝ) : V3 ℝ := M3.mulVec (M3.mul (Gen.rot_NU nu) (Gen.rot_DELTA delta)) ⟨0, 1, 0⟩
def qRaw (delta nu : ℝ) : V3 ℝ := M3.mulVec (M3.sub (M3.mul (Gen.rot_NU nu) (Gen.rot_DELTA delta)) M3.id) ⟨0, 1, 0⟩

theorem qRaw_eq (delta nu : ℝ) : qRaw delta nu = V3.sub (kfHat delta nu) ⟨0, 1, 0⟩ := M3.mulVec_sub_id _ _

/-- in the specification's rotations: `k̂_f = Rx(ν) Rz(−δ) ŷ` -/
theorem kfHat_eq (delta nu : ℝ) : kfHat delta nu = M3.mulVec (M3.mul (M3.rotX nu) (M3.rotZ (-delta))) ⟨0, 1, 0⟩ := by
  rw [kfHat, (gen_rot_senses nu).2.1, (gen_rot_senses delta).2.2.2.1]

theorem kfHat_comps (delta nu : ℝ) : kfHat delta nu = ⟨Real.sin delta, Real.cos delta * Real.cos nu, Real.cos delta * Real.sin nu⟩ := by
  rw [kfHat_eq, C04.kf_comps, V3.one_smul]

theorem normSq_kfHat (delta nu : ℝ) : V3.normSq (kfHat delta nu) = 1 := by
  rw [kfHat_eq, V3.normSq, ((isRot_rotX nu).mul (isRot_rotZ _)).dot]
  norm_num [V3.dot]

theorem qRaw_comps (delta nu : ℝ) :
    qRaw delta nu = ⟨Real.sin delta, Real.cos delta * Real.cos nu - 1, Real.cos delta * Real.sin nu⟩ := by
  rw [qRaw_eq, kfHat_eq, C04.q_comps, V3.one_smul]

theorem sin_half_arccos_nonneg (c : ℝ) : 0 ≤ Real.sin (Real.arccos c / 2) :=
  have h0 := Real.arccos_nonneg c
  Real.sin_nonneg_of_nonneg_of_le_pi (div_nonneg h0 zero_le_two) ((half_le_self h0).trans (Real.arccos_le_pi c))

/-- `|k_f − k_i| = 2 sin θ` with `θ = acos(cos δ cos ν)/2` -/
theorem norm_qRaw (delta nu : ℝ) : V3.norm (qRaw delta nu) = 2 * Real.sin (Real.arccos (Real.cos delta * Real.cos nu) / 2) := by
  rw [qRaw_comps]
  refine C04.norm_q ?_ (sin_half_arccos_nonneg _)
  rw [mul_div_cancel₀ _ two_ne_zero, cos_arccos_of_abs_le (abs_mul_le_one (Real.abs_cos_le_one _) (Real.abs_cos_le_one _))]

/-- `sin β = n̂ · k̂_f`: the code's `2 sinθ cos τ − sin α` is the projection of the reference direction on the scattered beam -/
theorem beta_arg_eq (delta nu : ℝ) (n : V3 ℝ) (hq : V3.norm (qRaw delta nu) ≠ 0) :
    2 * Real.sin (Real.arccos (Real.cos delta * Real.cos nu) / 2) * V3.dot (V3.normalised (qRaw delta nu)) n - (-n.y)
      = V3.dot (kfHat delta nu) n := by
  rw [← norm_qRaw, V3.normalised_eq_unit, ← V3.smul_inv_norm, V3.dot_smul_left, ← mul_assoc, mul_one_div_cancel hq, one_mul, qRaw_eq]
  simp only [V3.dot, V3.sub]; ring

/-- the quantity whose arcsine is `beta` is within [-1, 1] — `bound` cannot fail there -/
theorem beta_arg_abs (delta nu : ℝ) (n : V3 ℝ) (hn : V3.normSq n ≤ 1) (hq : V3.norm (qRaw delta nu) ≠ 0) :
    |2 * Real.sin (Real.arccos (Real.cos delta * Real.cos nu) / 2) * V3.dot (V3.normalised (qRaw delta nu)) n - (-n.y)| ≤ 1 := by
  rw [beta_arg_eq delta nu n hq]
  exact V3.abs_dot_le_one (normSq_kfHat delta nu).le hn

/-- **C11 / C05**: `get_virtual_angles` does not raise on any finite position, whatever the reference and surface
    vectors are (real reading) -/
theorem virtualAngles_total (ub : UBIn ℝ) (p : Pos ℝ) : ∃ va, virtualAngles ub p = .ok va := by
  unfold virtualAngles
  refine bind_total (angleBetween_eq _ _) (bind_total (angleBetween_eq _ _) ?_)
  rw [show M3.mulVec (M3.sub (M3.mul (Gen.rot_NU p.rad.nu) (Gen.rot_DELTA p.rad.delta)) M3.id) (⟨Scalar.zero, Scalar.one, Scalar.zero⟩ : V3 ℝ)
    = qRaw p.rad.delta p.rad.nu by simp only [qRaw, rs_zero, rs_one]]
  generalize hnl : V3.normalised (M3.mulVec _ ub.n_phi) = nl
  have hn1 : V3.normSq nl ≤ 1 := by rw [← hnl, V3.normalised_eq_unit]; exact V3.normSq_unit_le_one _
  have hy : |-nl.y| ≤ 1 := abs_neg nl.y ▸ abs_le_one_iff_mul_self_le_one.mpr
    ((le_add_of_le_of_nonneg (le_add_of_nonneg_left (mul_self_nonneg nl.x)) (mul_self_nonneg nl.z)).trans hn1)
  refine bind_total (boundAsin_eq hy) (ite_total (fun _ => ⟨_, rfl⟩) fun hsm => ?_)
  -- beyond the guard the scattering vector is not null, and `tau`, `beta` come from projections of unit vectors on unit vectors
  have hqne : V3.norm (qRaw p.rad.delta p.rad.nu) ≠ 0 := by
    intro h0
    refine hsm (Bool.or_eq_true_iff.mpr (.inl ?_))
    have hz : V3.normalised (qRaw p.rad.delta p.rad.nu) = qRaw p.rad.delta p.rad.nu := by
      unfold V3.normalised; simp [h0]
    simp only [C01.isSmallTol_real, hz, h0, abs_zero, Scalar.ofSci, decide_eq_true_eq]
    norm_num
  have hd : |V3.dot (V3.normalised (qRaw p.rad.delta p.rad.nu)) nl| ≤ 1 := by
    rw [V3.normalised_eq_unit]; exact V3.abs_dot_le_one (V3.normSq_unit_le_one _) hn1
  refine bind_total (boundAcos_eq hd) (bind_total rfl ?_)
  -- `beta`: with `q̂·n̂` written as `cos τ` and `−n̂.y` as `sin α` this is the code's `bound (2 sin θ cos τ − sin α)`
  have hb := boundAsin_eq (beta_arg_abs p.rad.delta p.rad.nu nl hn1 hqne)
  rw [← cos_arccos_of_abs_le hd, ← sin_arcsin_of_abs_le hy] at hb
  exact bind_total hb ⟨_, rfl⟩

/-- **C11, unconditional form** -/
theorem c11_getPosition (ub : UBIn ℝ) (hdet : M3.det ub.B ≠ 0) (mode : Mode ℝ) (hkl : V3 ℝ) (wl : ℝ)
    (hshape : match mode with | .detRefSamp det naz _ _ => det.isSome ∨ naz.isSome | _ => True) :
    NoLeak (getPosition ub mode hkl wl) ∧ ∀ l, getPosition ub mode hkl wl = .ok l → l ≠ [] :=
  ⟨getPosition_noLeak ub hdet mode hkl wl hshape fun p => let ⟨_, h⟩ := virtualAngles_total ub p; noLeak_of_ok h,
    getPosition_nonempty ub mode hkl wl⟩

/-- the modes the dispatcher builds from a constraint set always have the shape `c11_getPosition` assumes -/
theorem ofCons_shape (cs : ConList ℝ) (mode : Mode ℝ) (h : Mode.ofCons cs = some mode) :
    match mode with | .detRefSamp det naz _ _ => det.isSome ∨ naz.isSome | _ => True := by
  cases mode with
  | detRefSamp det naz ref s =>
    show det.isSome ∨ naz.isSome
    -- path by path through the dispatcher: a path that does not end in a `detRefSamp` contradicts `h`; the four that do lie behind the
    -- guard `det.isSome || naz.isSome` and hand on the `det` and `naz` of the guard
    revert h
    fun_cases Mode.ofCons cs
    all_goals intro h
    any_goals cases h
    all_goals
      obtain ⟨rfl, rfl, -, -⟩ := Mode.detRefSamp.inj (Option.some.inj h)
      exact (Bool.or_eq_true _ _).mp ‹_›
  | _ => trivial

/-! ## names this property's check refers to; each restates a fact proved elsewhere -/

/-- `angle_between_vectors` never fails on finite vectors (real reading) -/
theorem angleBetween_total (x y : V3 ℝ) : ∃ a, angleBetween x y = .ok a := ⟨_, angleBetween_eq x y⟩
end
end C11
