import Diffcalc.Model.DocModes
/-!
# C09 — a mode is reported implemented exactly when the solver can run it

Model: `implemented`, `dispatch` (hand, `Diffcalc/Model/Modes.lean`), `documented` (generated from the class
docstring).  The quantifier is the finite set of all 680 three-element subsets of the 17 names; every statement
is decided by the kernel (`decide +kernel`, no extra axioms).  The tie to the code is exhaustive: the check runs
all 680 triples through the real `Constraints` / `get_position` and compares accepted / implemented / route.
-/
namespace C09

open Name

/-- full statement over all triples -/
def C09_statement : Prop :=
  ∀ t ∈ triples, accepted t = true →
    (implemented t = true ↔ isSolver (dispatch t) = true) ∧
    (implemented t = false → dispatch t = .notImpl) ∧
    (implemented t = documented t)

/-- everything that is evaluated over the 680 triples, in one pass of the kernel (the conjuncts share the evaluation
    of `triples`, `accepted` and `implemented`) -/
theorem sweep :
    (triples.all fun t => !accepted t ||
      ((implemented t == isSolver (dispatch t)) && (implemented t || dispatch t == .notImpl)
        && (implemented t == documented t))) = true ∧
    triples.length = 680 ∧ (triples.filter accepted).length = 353 ∧
    (triples.filter fun t => accepted t && implemented t).length = 185 := by
  decide +kernel

theorem c09_all :
    (triples.all fun t => !accepted t ||
      ((implemented t == isSolver (dispatch t)) && (implemented t || dispatch t == .notImpl)
        && (implemented t == documented t))) = true :=
  sweep.1

theorem c09_full : C09_statement := by
  intro t ht hacc
  have h := (List.all_eq_true.mp c09_all) t ht
  simp only [hacc, Bool.not_true, Bool.false_or, Bool.and_eq_true, beq_iff_eq, Bool.or_eq_true] at h
  obtain ⟨⟨h1, h2⟩, h3⟩ := h
  exact ⟨by rw [h1], fun hf => h2.resolve_left (hf ▸ Bool.false_ne_true), h3⟩

theorem mem_pairs : ∀ {l : List Name} {y z : Name}, List.Sublist [y, z] l → [y, z] ∈ sublists3.pairs l
  | [], _, _, h => by cases h
  | a :: l, y, z, h => by
    unfold sublists3.pairs
    cases h with
    | cons _ h' => exact List.mem_append_right _ (mem_pairs h')
    | cons_cons _ h' => exact List.mem_append_left _ (List.mem_map.mpr ⟨z, h'.subset (List.mem_singleton.mpr rfl), rfl⟩)

/-- `sublists3 l` contains every three-element sublist of `l` (unbounded, by induction on `l`) -/
theorem mem_sublists3 : ∀ {l : List Name} {x y z : Name}, List.Sublist [x, y, z] l → [x, y, z] ∈ sublists3 l
  | [], _, _, _, h => by cases h
  | a :: l, x, y, z, h => by
    unfold sublists3
    cases h with
    | cons _ h' => exact List.mem_append_right _ (mem_sublists3 h')
    | cons_cons _ h' => exact List.mem_append_left _ (List.mem_map.mpr ⟨[y, z], mem_pairs h', rfl⟩)

/-- every fully constrained state of the constraint manager is one of the enumerated triples:
    the theorems over `triples` therefore speak about every reachable fully constrained state -/
theorem active_mem_triples {α : Type} (s : CState α) (h : s.count = 3) : s.activeNames ∈ triples := by
  have hsub : List.Sublist s.activeNames Name.all := List.filter_sublist
  have hl : s.activeNames.length = 3 := h
  generalize s.activeNames = l at hl hsub ⊢
  -- a list of length 3 is `[x, y, z]`: the shorter and the longer shapes contradict `hl`
  obtain _ | ⟨x, _ | ⟨y, _ | ⟨z, _ | ⟨w, r⟩⟩⟩⟩ := l <;> cases hl
  exact mem_sublists3 hsub

theorem triples_length : triples.length = 680 := sweep.2.1
theorem accepted_count : (triples.filter accepted).length = 353 := sweep.2.2.1
theorem implemented_count : (triples.filter fun t => accepted t && implemented t).length = 185 := sweep.2.2.2

/-- non-vacuity: concrete modes on both sides -/
example : [qaz, a_eq_b, mu] ∈ triples ∧ accepted [qaz, a_eq_b, mu] = true ∧ implemented [qaz, a_eq_b, mu] = true :=
  ⟨mem_sublists3 (by decide), rfl, rfl⟩
example : [naz, mu, eta] ∈ triples ∧ accepted [naz, mu, eta] = true ∧ implemented [naz, mu, eta] = false :=
  ⟨mem_sublists3 (by decide), rfl, rfl⟩

end C09
