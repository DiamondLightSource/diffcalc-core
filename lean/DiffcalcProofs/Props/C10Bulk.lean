import DiffcalcProofs.Props.C10
/-!
# C10 / C14 — the constraint dictionary round-trips: `Constraints(c.asdict)` rebuilds `c`

`WellTyped`: a VOID constraint stores `True`, a VALUE constraint stores a number — an invariant of every history.
`bulk_roundtrip`: for every state obeying the capacity rules and well typed, feeding the `asdict` read-out to the bulk setter of
a fresh object re-creates the state exactly (real reading: `radians(degrees x) = x`).
-/
namespace C10
open CState Scalar

variable {α : Type}

/-- a VOID constraint stores `True`, a VALUE constraint a number -/
def TypedFor (n : Name) : Val α → Prop
  | .tru => n.ty = .void
  | .num _ => n.ty = .value

def WellTyped (s : CState α) : Prop := ∀ n v, s n = some v → TypedFor n v

theorem wt_init : WellTyped (CState.init : CState α) := fun _ _ h => nomatch h

theorem wt_of_sub {s' s : CState α} (hs : Sub s' s) (h : WellTyped s) : WellTyped s' := fun n v hn =>
  h n v (by rcases hs n with e | e <;> simp_all)

theorem setValue_typed [Scalar α] (n : Name) (a : Arg α) (v : Val α) (h : setValue n a = .ok v) : TypedFor n v := by
  -- `setValue` answers `.ok` in two places only, `True` for a void name and a number for a value name, each behind the test that is the claim
  cases a <;> simp only [setValue] at h <;> (try split at h) <;> cases h <;> assumption

theorem wt_upd_some {s : CState α} {n : Name} {v : Val α} (h : WellTyped s) (hv : TypedFor n v) : WellTyped (s.upd n (some v)) := by
  intro m w hm
  simp only [upd] at hm
  split at hm
  · rename_i e; cases hm; subst e; exact hv
  · exact h m w hm

theorem wt_set [Scalar α] (s : CState α) (n : Name) (a : Arg α) (h : WellTyped s) : WellTyped (s.set n a).1 :=
  set_preserves _ s n a h (wt_of_sub (sub_upd_none s n) h) (fun v hv _ => wt_upd_some h (setValue_typed n a v hv)) fun v hv _ =>
    wt_upd_some (wt_of_sub (sub_clearCat s n.cat) h) (setValue_typed n a v hv)

theorem wt_step [Scalar α] (s : CState α) (op : COp α) (h : WellTyped s) : WellTyped (s.step op).1 :=
  step_preserves _ wt_set wt_init s op h

/-- every reachable state is well typed -/
theorem wt_history [Scalar α] (ops : List (COp α)) (s : CState α) (h : WellTyped s) :
    WellTyped (ops.foldl (fun st op => (st.step op).1) s) :=
  List.foldlRecOn ops _ h fun s hs op _ => wt_step s op hs

/-! ## the round trip -/

/-- the part of a state that lives on a list of names -/
def restrict (s : CState α) (l : List Name) : CState α := fun n => if n ∈ l then s n else none

theorem restrict_nil (s : CState α) : restrict s [] = CState.init := by funext n; simp [restrict, CState.init]
theorem restrict_all (s : CState α) : restrict s Name.all = s := by funext n; simp [restrict, mem_all]

theorem sub_restrict (s : CState α) (l : List Name) : Sub (restrict s l) s := fun m => by
  unfold restrict; split <;> simp

theorem restrict_snoc (s : CState α) (l : List Name) (n : Name) :
    restrict s (l ++ [n]) = (restrict s l).upd n (s n) := by
  funext m
  by_cases hm : m = n <;> simp [restrict, upd, hm]

/-- the read-out of one constraint as a bulk-setter argument -/
noncomputable def argOf (s : CState ℝ) (n : Name) : Arg ℝ :=
  match s.get n with | .tru => Arg.tru | .num x => Arg.num x | .none => Arg.none

theorem asItems_eq (s : CState ℝ) : s.asItems = (Name.all.filter fun n => s.active n).map fun n => (some n, argOf s n) := by
  simp only [asItems, argOf]
  congr 1; funext n; cases s.get n <;> rfl

theorem setValue_argOf (s : CState ℝ) (hw : WellTyped s) (n : Name) (v : Val ℝ) (hv : s n = some v) :
    setValue n (argOf s n) = .ok v := by
  have ht := hw n v hv
  cases v <;> simp only [TypedFor] at ht <;> simp only [argOf, CState.get, hv, setValue, if_pos ht, scalar_toRad_toDeg]

/-- the converse of `inv_activate` for a new constraint: if the rules hold once it is active, there was room for it -/
theorem room_of_inv_upd {s : CState α} {n : Name} {v : Val α} (hna : s.active n = false) (h : (s.upd n (some v)).Inv) :
    s.countCat n.cat < maxCat n.cat ∧ s.count < 3 := by
  rw [inv_iff] at h
  have a := count_upd s n (some v)
  have b := countCat_upd s n (some v) n.cat
  have := h.2 n.cat
  simp [hna] at a b
  omega

/-- one turn of the bulk loop: the slot of an active name not yet assigned is free in the partial state -/
theorem set_restrict (s : CState ℝ) (hi : s.Inv) (hw : WellTyped s) (done : List Name) (n : Name) (hn : n ∉ done)
    (v : Val ℝ) (hv : s n = some v) :
    (restrict s done).set n (argOf s n) = (restrict s (done ++ [n]), .ok ()) := by
  have hna : (restrict s done).active n = false := by simp [active, restrict, hn]
  have hinv : ((restrict s done).upd n (some v)).Inv := by
    rw [← hv, ← restrict_snoc]; exact inv_of_sub (sub_restrict s _) hi
  obtain ⟨h1, h2⟩ := accept_free (restrict s done) n (argOf s n) v (setValue_argOf s hw n v hv)
    (Or.inr (room_of_inv_upd hna hinv))
  rw [restrict_snoc, hv]
  exact Prod.ext h2 h1

theorem bulk_restrict (s : CState ℝ) (hi : s.Inv) (hw : WellTyped s) :
    ∀ (todo done : List Name), (done ++ todo).Nodup →
      bulkLoop (restrict s done) ((todo.filter fun n => s.active n).map fun n => (some n, argOf s n)) = .ok (restrict s (done ++ todo)) := by
  intro todo
  induction todo with
  | nil => intro done _; simp [bulkLoop]
  | cons n rest ih =>
    intro done hnd
    have hn : n ∉ done := fun hmem => (List.nodup_append.mp hnd).2.2 n hmem n List.mem_cons_self rfl
    have ih' := ih (done ++ [n]) (by simpa using hnd)
    rw [List.append_cons]
    cases hv : s n with
    | none =>
      have : restrict s (done ++ [n]) = restrict s done := by
        rw [restrict_snoc, hv]; funext m; by_cases hm : m = n <;> simp [upd, restrict, hm, hv]
      rw [this] at ih'
      simpa [List.filter_cons, active, hv] using ih'
    | some v =>
      simpa [List.filter_cons, active, hv, bulkLoop, set_restrict s hi hw done n hn v hv] using ih'

/-- **C10 / C14, constraints**: `Constraints(c.asdict)` re-creates `c`, for every state obeying the capacity rules -/
theorem bulk_roundtrip (s : CState ℝ) (hi : s.Inv) (hw : WellTyped s) :
    bulkLoop CState.init s.asItems = .ok s ∧ (CState.init : CState ℝ).setBulk s.asItems = (s, .ok ()) := by
  have h := bulk_restrict s hi hw Name.all [] (by simpa using names_nodup)
  rw [restrict_nil] at h
  simp only [List.nil_append, restrict_all] at h
  rw [asItems_eq]
  refine ⟨h, ?_⟩
  simp only [setBulk, h]
end C10
