import Diffcalc.Model.Serial
import DiffcalcProofs.Props.C06
import DiffcalcProofs.Props.C10Bulk
/-!
# C14 — serialisation round trips preserve the calculator's behaviour
-/
/-! Reading a key from a dictionary literal, and the leaf codecs: what the `fromdict` proofs rewrite with. -/
namespace J
variable {α : Type}
@[simp] theorem get?_cons (k k' : String) (v : J α) (kv : List (String × J α)) :
    (J.obj ((k', v) :: kv)).get? k = if k' = k then some v else (J.obj kv).get? k := by
  by_cases h : k' = k <;> simp [get?, h]
@[simp] theorem get?_nil (k : String) : (J.obj ([] : List (String × J α))).get? k = none := rfl
@[simp] theorem asNum?_num (x : α) : (J.num x).asNum? = some x := rfl
@[simp] theorem asOptStr?_ofOptStr (t : Option String) : (ofOptStr t : J α).asOptStr? = some t := by cases t <;> rfl
end J

namespace C14
open Serial Scalar
noncomputable section

@[simp] theorem pos_roundtrip (p : PosS ℝ) : posOfDict (posDict p) = some p := by
  simp [posOfDict, posDict, J.keys, posFields, posArg]

@[simp] theorem refl_roundtrip (r : ReflS ℝ) : reflOfDict (reflDict r) = some r := by
  simp [reflOfDict, reflDict]

@[simp] theorem orient_roundtrip (r : OrientS ℝ) : orientOfDict (orientDict r) = some r := by
  simp [orientOfDict, orientDict]

/-- an encoded list is decoded element by element -/
theorem mapM_map_some {β γ δ : Type} {f : β → γ} {g : γ → Option δ} {h : β → δ} (hg : ∀ x, g (f x) = some (h x)) (l : List β) :
    (l.map f).mapM g = some (l.map h) := by
  induction l with
  | nil => rfl
  | cons x xs ih => simp [hg x, ih]

@[simp] theorem mapM_roundtrip {β : Type} (f : β → J ℝ) (g : J ℝ → Option β) (h : ∀ x, g (f x) = some x) (l : List β) :
    listOfDict g (.arr (l.map f)) = some l := by
  rw [listOfDict, mapM_map_some h, List.map_id']

/-- the stored cell is what `_get_cell_for_system` returned — the last statement of every path through `Crystal.__init__` -/
def ValidCrystal (c : CrystalS ℝ) : Prop :=
  ∃ a1 a2 a3 d1 d2 d3, Gen.cellForSystem c.system a1 a2 a3 d1 d2 d3 = some (c.a1, c.a2, c.a3, c.alpha1, c.alpha2, c.alpha3)

/-- every successful constructor call produces a valid crystal -/
theorem cellOfSystem_valid (name sys : String) (args : List ℝ) (c : ℝ × ℝ × ℝ × ℝ × ℝ × ℝ)
    (h : CrystalModel.cellOfSystem sys args = some c) :
    ValidCrystal ⟨name, sys, c.1, c.2.1, c.2.2.1, c.2.2.2.1, c.2.2.2.2.1, c.2.2.2.2.2⟩ := by
  unfold CrystalModel.cellOfSystem at h
  split at h
  · exact ⟨_, _, _, _, _, _, h⟩
  · cases h

theorem cellOfSix_valid (name : String) (args : List ℝ) (c : ℝ × ℝ × ℝ × ℝ × ℝ × ℝ) (h : CrystalModel.cellOfSix args = some c) :
    ValidCrystal ⟨name, "Triclinic", c.1, c.2.1, c.2.2.1, c.2.2.2.1, c.2.2.2.2.1, c.2.2.2.2.2⟩ := by
  unfold CrystalModel.cellOfSix at h
  split at h
  · cases h
    exact ⟨_, _, _, _, _, _, (C06.cellForSystem_spec _ _ _ _ _ _).2.2.2.2.2.2.1⟩
  · cases h

/-- handing the stored cell back to the constructor (lengths, angles in degrees, with the system name) reproduces it -/
theorem cell_fixed_point (sys : String) (c1 c2 c3 l1 l2 l3 a1 a2 a3 d1 d2 d3 : ℝ)
    (h : Gen.cellForSystem sys a1 a2 a3 d1 d2 d3 = some (c1, c2, c3, l1, l2, l3)) :
    CrystalModel.cellOfSystem sys [c1, c2, c3, toDeg l1, toDeg l2, toDeg l3] = some (c1, c2, c3, l1, l2, l3) := by
  simpa only [one_mul, C06.cellOfSystem_six] using C06.cellForSystem_scale 1 1 1 h (fun _ => rfl) (fun _ => rfl)

theorem crystal_roundtrip (c : CrystalS ℝ) (hv : ValidCrystal c) : crystalOfDict (crystalDict c) = some c := by
  obtain ⟨a1, a2, a3, d1, d2, d3, h⟩ := hv
  obtain ⟨name, sys, c1, c2, c3, l1, l2, l3⟩ := c
  simp [crystalOfDict, crystalDict, J.keys, crystalKeys, J.getD, numArgs, cell_fixed_point sys c1 c2 c3 l1 l2 l3 a1 a2 a3 d1 d2 d3 h]

@[simp] theorem refVec_roundtrip (r : RefVecS ℝ) : refVecOfDict (refVecDict r) = some r := by
  simp [refVecOfDict, refVecDict, J.keys]

@[simp] theorem mat_roundtrip (m : Option (M3 ℝ)) : matOfDict (matDict m) = some m := by
  cases m <;> rfl

def ValidUB (s : UBS ℝ) : Prop := ∀ c, s.crystal = some c → ValidCrystal c

/-- **C14, UB calculation**: `fromdict(asdict(s)) = s` for every state whose crystal (if any) came out of the constructor —
    states with no lattice, no U / UB, untagged references and vectors in either frame are all inside the quantifier -/
theorem ub_roundtrip (s : UBS ℝ) (hv : ValidUB s) : ubOfDict (ubDict s) = some s := by
  obtain ⟨name, crystal, refl, orient, reference, surface, U, UB⟩ := s
  cases crystal with
  | none => simp [ubOfDict, ubDict, J.asStr?]
  | some c =>
    have hc := crystal_roundtrip c (hv c rfl)
    -- a crystal's dictionary is an object, so it is not read as `null`
    obtain ⟨kv, e⟩ : ∃ kv, crystalDict c = J.obj kv := ⟨_, rfl⟩
    rw [e] at hc
    simp [ubOfDict, ubDict, J.asStr?, e, hc]

theorem ofString_toString (n : Name) : Name.ofString? n.toString = some n := by cases n <;> decide

theorem mapM_items (s : CState ℝ) (l : List Name) :
    (l.map (consEntry s)).mapM itemOf = some (l.map fun n => (some n, C10.argOf s n)) := by
  refine mapM_map_some (fun n => ?_) l
  simp only [consEntry, C10.argOf]
  cases s.get n <;> simp [itemOf, ofString_toString]

/-- **C14, constraints**: `Constraints(c.asdict)` re-creates every reachable constraint state -/
theorem cons_roundtrip (s : CState ℝ) (hi : s.Inv) (hw : C10.WellTyped s) : consOfDict (consDict s) = some s := by
  have h := (C10.bulk_roundtrip s hi hw).1
  rw [C10.asItems_eq] at h
  simp only [consOfDict, consDict, mapM_items, h]

/-- **C14, whole calculator**: `HklCalculation.fromdict(c.asdict)` re-creates the state — hence answers every query alike
    (queries are functions of the state, C12) — and serialises to the same dictionary -/
theorem hkl_roundtrip (s : HklS ℝ) (hv : ValidUB s.ub) (hi : s.cons.Inv) (hw : C10.WellTyped s.cons) :
    hklOfDict (hklDict s) = some s := by
  simp [hklOfDict, hklDict, ub_roundtrip s.ub hv, cons_roundtrip s.cons hi hw]

theorem hkl_dict_stable (s : HklS ℝ) (hv : ValidUB s.ub) (hi : s.cons.Inv) (hw : C10.WellTyped s.cons) :
    (hklOfDict (hklDict s)).map hklDict = some (hklDict s) := by
  rw [hkl_roundtrip s hv hi hw]; rfl

/-- non-vacuity: a state with a cubic crystal, an untagged reflection, no U, UB only, one VOID and one VALUE constraint -/
example : ∃ s : HklS ℝ, ValidUB s.ub ∧ s.cons.Inv ∧ C10.WellTyped s.cons ∧ s.ub.crystal.isSome ∧ s.ub.U = none ∧ s.ub.UB.isSome
    ∧ s.cons.active .a_eq_b ∧ s.cons.active .mu := by
  let cons : CState ℝ := (((CState.init : CState ℝ).step (.set .a_eq_b .tru)).1.step (.set .mu (.num 10))).1
  refine ⟨⟨⟨"x", some ⟨"c", "Cubic", 4, 4, 4, Real.pi / 2, Real.pi / 2, Real.pi / 2⟩, [⟨1, 0, 0, ⟨0, 0, 0, 0, 0, 0⟩, 12, none⟩], [],
    ⟨⟨1, 0, 0⟩, true⟩, ⟨⟨0, 0, 1⟩, false⟩, none, some M3.id⟩, cons⟩, ?_, ?_, ?_, rfl, rfl, rfl, ?_, ?_⟩
  · rintro _ ⟨⟩
    exact ⟨4, 0, 0, 0, 0, 0, (C06.cellForSystem_spec 4 0 0 0 0 0).1⟩
  · exact C10.inv_history [.set .a_eq_b .tru, .set .mu (.num 10)] _ C10.inv_init
  · exact C10.wt_history [.set .a_eq_b .tru, .set .mu (.num 10)] _ C10.wt_init
  · decide
  · decide

/-! ## names this property's check refers to; each restates a fact proved elsewhere -/

theorem toRad_toDeg (x : ℝ) : toRad (toDeg x) = x := scalar_toRad_toDeg x
end
end C14
