import DiffcalcProofs.Props.C14
import DiffcalcProofs.Props.C08
import DiffcalcProofs.Props.C04
import DiffcalcProofs.Props.C08Miscut
import Diffcalc.Model.Refine
/-!
# C15 — refinement makes the calculator reproduce the reflections it was given

Model: `Diffcalc/Model/Refine.lean` (hand, tie H).
-/
namespace C15
open M3 Refine Scalar
noncomputable section

def diag (x y z : ℝ) : M3 ℝ := ⟨x, 0, 0, 0, y, 0, 0, 0, z⟩

/-- column `i` of `B` scales as `1 / a_i`: multiplying the three cell lengths by positive factors divides the columns -/
theorem reciprocalB_scale_axes (k : C06.Cell) (t1 t2 t3 : ℝ) (h1 : 0 < t1) (h2 : 0 < t2) (h3 : 0 < t3) :
    Gen.reciprocalB (t1 * k.a1) (t2 * k.a2) (t3 * k.a3) k.al1 k.al2 k.al3 = M3.mul k.B (diag (1 / t1) (1 / t2) (1 / t3)) :=
  C06.reciprocalB_scale_axes _ _ _ _ _ _ t1 t2 t3 h1.ne' h2.ne' h3.ne'

/-- if every axis with a non-zero index is scaled by `sc`, `B'·hkl = (B·hkl) / sc` -/
theorem Bhkl_scaled (B : M3 ℝ) (hkl : V3 ℝ) (sc t1 t2 t3 : ℝ)
    (c1 : hkl.x = 0 ∨ t1 = sc) (c2 : hkl.y = 0 ∨ t2 = sc) (c3 : hkl.z = 0 ∨ t3 = sc) :
    M3.mulVec (M3.mul B (diag (1 / t1) (1 / t2) (1 / t3))) hkl = V3.smul (1 / sc) (M3.mulVec B hkl) := by
  have e : ∀ {x t : ℝ}, x = 0 ∨ t = sc → 1 / t * x = 1 / sc * x := by rintro x t (rfl | rfl) <;> simp only [mul_zero]
  have hd : M3.mulVec (diag (1 / t1) (1 / t2) (1 / t3)) hkl = V3.smul (1 / sc) hkl := by
    ext <;> simp only [M3.mulVec, diag, V3.smul, zero_mul, add_zero, zero_add]
    exacts [e c1, e c2, e c3]
  rw [M3.mulVec_mul, hd, M3.mulVec_smul]

/-- the scale factor of `_rescale_unit_cell` in closed form -/
theorem scaleFactor_eq (B : M3 ℝ) (hdet : M3.det B ≠ 0) (hkl q : V3 ℝ) (wl : ℝ) (hne : 0 < V3.norm (M3.mulVec B hkl)) :
    scaleFactor B hkl q wl = .ok (1 / (V3.norm q / wl * (2 * Real.pi / V3.norm (M3.mulVec B hkl)))) := by
  simp only [scaleFactor, C06.planeDistance_eq B hdet hkl hne, bind, Except.bind, pure, Except.pure, rs_one]

/-- with that factor the rescaled reciprocal vector has exactly the measured length `2π|q|/λ` -/
theorem rescale_matches_q (n nq wl : ℝ) (hn : 0 < n) (hq : 0 < nq) (hwl : 0 < wl) :
    (1 / (1 / (nq / wl * (2 * Real.pi / n)))) * n = 2 * Real.pi / wl * nq := by
  rw [one_div_one_div, mul_assoc, div_mul_cancel₀ _ hn.ne']
  ring

/-- the Rodrigues rotation about `v × q` by the angle between `v` and `q` takes the direction of `v` onto that of `q` -/
theorem rodrigues_align (v q : V3 ℝ) (h : 0 < V3.norm (V3.cross v q)) :
    M3.mulVec (M3.rodrigues (V3.cross v q) (Real.arccos (V3.dot q v / (V3.norm q * V3.norm v)))) (V3.unit v) = V3.unit q := by
  obtain ⟨hv, hq⟩ := V3.norm_pos_of_cross v q h
  have hvq : 0 < 1 / (V3.norm v * V3.norm q) := one_div_pos.mpr (mul_pos hv hq)
  -- the axis enters through its direction only, and the angle is the one between the unit vectors
  rw [← V3.dot_unit, V3.dot_comm, ← M3.rodrigues_smul_axis hvq, ← V3.cross_unit]
  exact M3.rodrigues_align (V3.dot_unit_self hv) (V3.dot_unit_self hq) (by rw [V3.cross_unit, V3.norm_smul_pos _ hvq]; exact mul_pos hvq h)

/-- **C15, orientation part**: when `refine_ub` applies a rotation it is a proper rotation taking the direction of `UB·hkl` onto the measured `q` -/
theorem refineRot_aligns (UB : M3 ℝ) (hkl q : V3 ℝ) (R : M3 ℝ) (h : refineRot UB hkl q = some R) :
    IsRot R ∧ M3.mulVec R (V3.unit (M3.mulVec UB hkl)) = V3.unit q := by
  unfold refineRot miscutFromHkl at h
  set v := M3.mulVec UB hkl
  by_cases hsm : Scalar.lt (V3.norm (V3.cross v q)) (Scalar.SMALL : ℝ) = true
  · simp [hsm] at h
  · have hpos : 0 < V3.norm (V3.cross v q) := by
      simp only [rs_lt, rs_SMALL, decide_eq_true_eq, not_lt] at hsm
      exact lt_of_lt_of_le (by norm_num) hsm
    have hb : PyOps.bound (V3.dot q v / (V3.norm q * V3.norm v)) = .ok (V3.dot q v / (V3.norm q * V3.norm v)) :=
      bound_id (V3.abs_dot_div_le_one q v)
    rw [if_neg hsm, hb] at h
    dsimp only at h
    split at h
    · cases h
    · simp only [Option.some.injEq] at h
      -- the axis handed to `rodrigues` is `unit (v × q)`, written out in components
      have hR : M3.rodrigues (V3.unit (V3.cross v q)) (Real.arccos (V3.dot q v / (V3.norm q * V3.norm v))) = R := by
        rw [← h, scalar_toRad_toDeg]; rfl
      rw [← hR, M3.rodrigues_unit_axis hpos]
      exact ⟨C08.rodrigues_isRot _ _ hpos, rodrigues_align v q hpos⟩

/-- what the proofs use of `scaledAxes`: axes the system ties are scaled together, and an axis with a non-zero index is scaled -/
theorem scaledAxes_spec (sys : String) (hkl : V3 ℝ) :
    (sys = "Cubic" ∨ sys = "Rhombohedral" ∨ sys = "Tetragonal" ∨ sys = "Hexagonal" → (scaledAxes sys hkl).2.1 = (scaledAxes sys hkl).1) ∧
    (sys = "Cubic" ∨ sys = "Rhombohedral" → (scaledAxes sys hkl).2.2 = (scaledAxes sys hkl).1) ∧
    ((1e-7 : ℝ) < |hkl.x| → (scaledAxes sys hkl).1 = true) ∧
    ((1e-7 : ℝ) < |hkl.y| → (scaledAxes sys hkl).2.1 = true) ∧
    ((1e-7 : ℝ) < |hkl.z| → (scaledAxes sys hkl).2.2 = true) := by
  simp only [scaledAxes, rs_lt, rs_abs, rs_SMALL]
  -- the three rows of the table (all lengths tied, the first two tied, none tied); in each the five claims are read off
  split_ifs with hi hu <;> simp_all

/-- what `set_lattice(name, system, *rescaled)` makes of the rescaled lengths: for a cell of the system, every length is multiplied by `1` or by the
    scale factor, and every length whose index is non-zero by the scale factor (that tied lengths get the same factor is `scaledAxes_spec`) -/
theorem rescaled_cell (sys : String) (c : Cell ℝ) (f1 f2 f3 f4 f5 f6 : ℝ) (hv : Gen.cellForSystem sys f1 f2 f3 f4 f5 f6 = some c)
    (hkl : V3 ℝ) (sc : ℝ) :
    ∃ t1 t2 t3 : ℝ, CrystalModel.cellOfSystem sys (rescaledArgs sys c hkl sc)
        = some (t1 * c.1, t2 * c.2.1, t3 * c.2.2.1, c.2.2.2.1, c.2.2.2.2.1, c.2.2.2.2.2)
      ∧ (t1 = 1 ∨ t1 = sc) ∧ (t2 = 1 ∨ t2 = sc) ∧ (t3 = 1 ∨ t3 = sc)
      ∧ ((1e-7 : ℝ) < |hkl.x| → t1 = sc) ∧ ((1e-7 : ℝ) < |hkl.y| → t2 = sc) ∧ ((1e-7 : ℝ) < |hkl.z| → t3 = sc) := by
  obtain ⟨c1, c2, c3, l1, l2, l3⟩ := c
  obtain ⟨h12, h13, o1, o2, o3⟩ := scaledAxes_spec sys hkl
  have key := C06.cellForSystem_scale
    (if (scaledAxes sys hkl).1 then sc else 1) (if (scaledAxes sys hkl).2.1 then sc else 1) (if (scaledAxes sys hkl).2.2 then sc else 1)
    hv (fun h => by rw [h12 h]) (fun h => by rw [h13 h])
  refine ⟨_, _, _, ?_, (ite_eq_or_eq _ _ _).symm, (ite_eq_or_eq _ _ _).symm, (ite_eq_or_eq _ _ _).symm,
    fun h => if_pos (o1 h), fun h => if_pos (o2 h), fun h => if_pos (o3 h)⟩
  rw [← key, ← C06.cellOfSystem_six]
  simp only [rescaledArgs, ite_mul, one_mul]

/-- a refined cell is what the constructor made of the rescaled lengths, for the scale factor of the reflection -/
theorem refinedCell_some {sys : String} {c c' : Cell ℝ} {hkl q : V3 ℝ} {wl : ℝ} (h : refinedCell sys c hkl q wl = .ok (some c')) :
    ∃ sc, scaleFactor (CrystalModel.Bof c) hkl q wl = .ok sc ∧ CrystalModel.cellOfSystem sys (rescaledArgs sys c hkl sc) = some c' := by
  unfold refinedCell at h
  obtain ⟨sc, hs, h⟩ := bind_ok_inv h
  refine ⟨sc, hs, ?_⟩
  -- the two early exits return `none`; past them the constructor's answer is handed on, and its failure is an error
  split_ifs at h
  · cases h
  · cases h
  · split at h
    · rename_i hc
      cases h
      exact hc
    · cases h

/-- **C15, refine_ub**: on the main branch (lattice refined, rotation applied) with both flags, the refined `UB` maps the given `hkl` exactly
    onto the measured scattering vector `(2π/λ)·q` — for every crystal system, every start orientation, every position and every zero pattern of `hkl` -/
theorem refineUb_post (sys : String) (k : C06.Cell) (f1 f2 f3 f4 f5 f6 : ℝ)
    (hsys : Gen.cellForSystem sys f1 f2 f3 f4 f5 f6 = some (k.a1, k.a2, k.a3, k.al1, k.al2, k.al3))
    (U : M3 ℝ) (hU : IsRot U) (hkl q : V3 ℝ) (wl : ℝ) (hwl : 0 < wl)
    (hx : hkl.x = 0 ∨ (1e-7 : ℝ) < |hkl.x|) (hy : hkl.y = 0 ∨ (1e-7 : ℝ) < |hkl.y|) (hz : hkl.z = 0 ∨ (1e-7 : ℝ) < |hkl.z|)
    (hne : 0 < V3.norm (M3.mulVec k.B hkl)) (hq : 0 < V3.norm q)
    (c1 : Cell ℝ) (h1 : refinedCell sys (k.a1, k.a2, k.a3, k.al1, k.al2, k.al3) hkl q wl = .ok (some c1))
    (R : M3 ℝ) (h2 : refineRot (M3.mul U (CrystalModel.Bof c1)) hkl q = some R) :
    refineUb sys (k.a1, k.a2, k.a3, k.al1, k.al2, k.al3) U hkl q wl true true
        = .ok (c1, ⟨some (CrystalModel.Bof c1), some (M3.mul R U), some (M3.mul (M3.mul R U) (CrystalModel.Bof c1))⟩)
    ∧ M3.mulVec (M3.mul (M3.mul R U) (CrystalModel.Bof c1)) hkl = V3.smul (2 * Real.pi / wl) q := by
  obtain ⟨hR, hal⟩ := refineRot_aligns _ hkl q R h2
  constructor
  · -- evaluation of the model on the main branch
    have hsd := C08.sdiv_cbrt_det_of_isRot (IsRot.mul hR hU)
    simp only [refineUb, h1, bind, Except.bind, pure, Except.pure, UBState.setLatticeOk, h2, UBState.setMiscutOk, UBState.setUOk, hsd]
  · -- the refined UB reproduces the reflection; `sc` is the scale factor the model worked out, `hsc` its closed form
    obtain ⟨sc, hsf, hc⟩ := refinedCell_some h1
    have hsc : 1 / (V3.norm q / wl * (2 * Real.pi / V3.norm (M3.mulVec k.B hkl))) = sc :=
      Except.ok.inj ((scaleFactor_eq k.B k.det_B_ne hkl q wl hne).symm.trans hsf)
    have hscpos : 0 < sc := by rw [← hsc]; exact one_div_pos.mpr (mul_pos (div_pos hq hwl) (div_pos Real.two_pi_pos hne))
    obtain ⟨t1, t2, t3, hcell, d1, d2, d3, i1, i2, i3⟩ := rescaled_cell sys _ f1 f2 f3 f4 f5 f6 hsys hkl sc
    have pos : ∀ {t : ℝ}, t = 1 ∨ t = sc → 0 < t := by rintro t (rfl | rfl); exacts [one_pos, hscpos]
    have hB1 : CrystalModel.Bof c1 = M3.mul k.B (diag (1 / t1) (1 / t2) (1 / t3)) := by
      rw [Option.some.inj (hc.symm.trans hcell)]
      exact reciprocalB_scale_axes k t1 t2 t3 (pos d1) (pos d2) (pos d3)
    -- lattice: every axis with a non-zero index was scaled by `sc`, so `B'·hkl = (B·hkl) / sc`, of length `2π|q|/λ`
    have hnv : V3.norm (M3.mulVec (M3.mul U (CrystalModel.Bof c1)) hkl) = 2 * Real.pi / wl * V3.norm q := by
      rw [M3.mulVec_mul, hB1, Bhkl_scaled k.B hkl sc t1 t2 t3 (hx.imp id i1) (hy.imp id i2) (hz.imp id i3), hU.norm,
        V3.norm_smul_pos _ (one_div_pos.mpr hscpos), ← hsc]
      exact rescale_matches_q _ _ wl hne hq hwl
    -- orientation: `R` takes the direction of `U·B'·hkl` onto that of `q`
    have hvpos : 0 < V3.norm (M3.mulVec (M3.mul U (CrystalModel.Bof c1)) hkl) := hnv ▸ mul_pos (div_pos Real.two_pi_pos hwl) hq
    rw [M3.mul_assoc', M3.mulVec_mul, ← V3.smul_norm_unit _ hvpos, M3.mulVec_smul, hal, hnv, ← V3.smul_smul, V3.smul_norm_unit q hq]

/-- corollary in the terms of the property: after `refine_ub` the given position maps back to the given `hkl` -/
theorem refineUb_reproduces (sys : String) (k : C06.Cell) (f1 f2 f3 f4 f5 f6 : ℝ)
    (hsys : Gen.cellForSystem sys f1 f2 f3 f4 f5 f6 = some (k.a1, k.a2, k.a3, k.al1, k.al2, k.al3))
    (U : M3 ℝ) (hU : IsRot U) (hkl : V3 ℝ) (mu delta nu eta chi phi wl : ℝ) (hwl : 0 < wl)
    (hx : hkl.x = 0 ∨ (1e-7 : ℝ) < |hkl.x|) (hy : hkl.y = 0 ∨ (1e-7 : ℝ) < |hkl.y|) (hz : hkl.z = 0 ∨ (1e-7 : ℝ) < |hkl.z|)
    (hne : 0 < V3.norm (M3.mulVec k.B hkl)) (hq : 0 < V3.norm (Gen.get_q_phi mu delta nu eta chi phi))
    (c1 : Cell ℝ) (h1 : refinedCell sys (k.a1, k.a2, k.a3, k.al1, k.al2, k.al3) hkl (Gen.get_q_phi mu delta nu eta chi phi) wl = .ok (some c1))
    (R : M3 ℝ) (h2 : refineRot (M3.mul U (CrystalModel.Bof c1)) hkl (Gen.get_q_phi mu delta nu eta chi phi) = some R)
    (hdet : M3.det (CrystalModel.Bof c1) ≠ 0) :
    Gen.get_hkl (M3.mul (M3.mul R U) (CrystalModel.Bof c1)) mu delta nu eta chi phi wl = hkl := by
  obtain ⟨_, hpost⟩ := refineUb_post sys k f1 f2 f3 f4 f5 f6 hsys U hU hkl _ wl hwl hx hy hz hne hq c1 h1 R h2
  have hd : M3.det (M3.mul (M3.mul R U) (CrystalModel.Bof c1)) ≠ 0 :=
    ((refineRot_aligns _ hkl _ R h2).1.mul hU).det_mul_ne_zero hdet
  -- with `UB'` the refined matrix: `q = (λ/2π)·UB'·get_hkl`, so `UB'·hkl = UB'·get_hkl`, and `UB'` is invertible
  rw [C04.getQPhi_eq _ hd mu delta nu eta chi phi wl hwl.ne', V3.smul_smul, div_mul_div_comm, mul_comm wl, div_self (by positivity),
    V3.one_smul] at hpost
  rw [← M3.inv_mulVec_cancel _ hd (Gen.get_hkl _ mu delta nu eta chi phi wl), ← hpost, M3.inv_mulVec_cancel _ hd]

/-- the refined cell is again a cell of the same crystal system (it is what the constructor made of the rescaled lengths) -/
theorem refinedCell_keeps_system (sys : String) (c c' : Cell ℝ) (hkl q : V3 ℝ) (wl : ℝ)
    (h : refinedCell sys c hkl q wl = .ok (some c')) :
    C14.ValidCrystal ⟨"x", sys, c'.1, c'.2.1, c'.2.2.1, c'.2.2.2.1, c'.2.2.2.2.1, c'.2.2.2.2.2⟩ := by
  obtain ⟨sc, -, hc⟩ := refinedCell_some h
  exact C14.cellOfSystem_valid "x" sys _ _ hc

/-- `fit_ub`, lattice part: whatever parameter vector the optimiser returns, the crystal built from it (`Crystal("trial", system, *vals)`) and
    handed to `set_lattice(name, system, a, b, c, alpha, beta, gamma)` is a cell of the same system, and that hand-over is lossless -/
theorem fit_keeps_system (sys : String) (vals : List ℝ) (c : Cell ℝ) (h : CrystalModel.cellOfSystem sys vals = some c) :
    C14.ValidCrystal ⟨"x", sys, c.1, c.2.1, c.2.2.1, c.2.2.2.1, c.2.2.2.2.1, c.2.2.2.2.2⟩ ∧
    CrystalModel.cellOfSystem sys [c.1, c.2.1, c.2.2.1, toDeg c.2.2.2.1, toDeg c.2.2.2.2.1, toDeg c.2.2.2.2.2] = some c := by
  have hv := C14.cellOfSystem_valid "x" sys vals c h
  refine ⟨hv, ?_⟩
  obtain ⟨a1, a2, a3, d1, d2, d3, hh⟩ := hv
  obtain ⟨c1, c2, c3, l1, l2, l3⟩ := c
  exact C14.cell_fixed_point sys c1 c2 c3 l1 l2 l3 a1 a2 a3 d1 d2 d3 hh

/-- `fit_ub`, orientation part: whatever `(u1, u2, u3) ∈ [0,1]³` the optimiser returns, the matrix built from it is a proper rotation -/
theorem fitU_proper (u1 u2 u3 : ℝ) (h0 : 0 ≤ u1) (h1 : u1 ≤ 1) :
    let q := Gen.get_quat_from_u123 u1 u2 u3
    IsRot (Gen.get_rot_matrix q.1 q.2.1 q.2.2.1 q.2.2.2) := C08.quatRot_isRot u1 u2 u3 h0 h1

/-! ## closed-form least squares (triclinic `fit_ub`) -/

theorem outer_mulVec (x : V3 ℝ) (M : M3 ℝ) : outer x (M3.mulVec M x) = M3.mul (outer x x) (M3.transpose M) := by
  simp only [outer, M3.mulVec, M3.mul, M3.transpose]; congr 1 <;> ring

theorem add'_mul (a b c : M3 ℝ) : M3.mul (Refine.M3.add' a b) c = Refine.M3.add' (M3.mul a c) (M3.mul b c) := by
  simp only [Refine.M3.add', M3.mul, add_mul]; congr 1 <;> abel

/-- on data `y_i = M·x_i` the sum of the `x_i y_iᵀ` is the sum of the `x_i x_iᵀ` times `Mᵀ`, whatever the sums start from -/
theorem fold_exact (M : M3 ℝ) (data : List (V3 ℝ × V3 ℝ)) (h : ∀ p ∈ data, p.2 = M3.mulVec M p.1) (ax : M3 ℝ) :
    data.foldl (fun acc p => Refine.M3.add' acc (outer p.1 p.2)) (M3.mul ax (M3.transpose M))
      = M3.mul (data.foldl (fun acc p => Refine.M3.add' acc (outer p.1 p.1)) ax) (M3.transpose M) := by
  induction data generalizing ax with
  | nil => rfl
  | cons p rest ih =>
    rw [List.foldl_cons, List.foldl_cons, h p List.mem_cons_self, outer_mulVec, ← add'_mul]
    exact ih (fun p' hp' => h p' (List.mem_cons_of_mem _ hp')) _

/-- exactly consistent data (`y_i = M·x_i`, `XᵀX` invertible) ⇒ the least-squares matrix is `Mᵀ` -/
theorem lsq_exact (M : M3 ℝ) (data : List (V3 ℝ × V3 ℝ)) (h : ∀ p ∈ data, p.2 = M3.mulVec M p.1) (hdet : M3.det (xtx data) ≠ 0) :
    lsq data = M3.transpose M := by
  have hz : M3.mul Refine.M3.zero' (M3.transpose M) = (Refine.M3.zero' : M3 ℝ) := by
    simp only [Refine.M3.zero', M3.mul, rs_zero, zero_mul, add_zero]
  have hxy : xty data = M3.mul (xtx data) (M3.transpose M) := by
    rw [xty, ← hz]; exact fold_exact M data h _
  rw [lsq, hxy, ← M3.mul_assoc', M3.inv_mul_cancel _ hdet, M3.id_mul]

theorem vdiv_norm (v : V3 ℝ) : vdiv v (V3.norm v) = V3.unit v := rfl

/-- Gram–Schmidt on the columns of `U·B` is `U` times Gram–Schmidt on the columns of `B`: a rotation commutes with every step -/
theorem gramSchmidt_rot {U : M3 ℝ} (hU : IsRot U) (B : M3 ℝ) :
    gramSchmidt (M3.transpose (M3.mul U B)) = M3.mul U (gramSchmidt (M3.transpose B)) := by
  have h0 : row0 (M3.transpose (M3.mul U B)) = M3.mulVec U (row0 (M3.transpose B)) := rfl
  have h1 : row1 (M3.transpose (M3.mul U B)) = M3.mulVec U (row1 (M3.transpose B)) := rfl
  have h2 : row2 (M3.transpose (M3.mul U B)) = M3.mulVec U (row2 (M3.transpose B)) := rfl
  simp only [gramSchmidt, h0, h1, h2, vdiv_norm, hU.unit, hU.dot, ← M3.mulVec_smul, ← M3.mulVec_sub, ← M3.mul_ofCols]

/-- the columns of an upper-triangular matrix with positive diagonal are already in Gram–Schmidt position: step `j` is left with
    `B.ajj · eⱼ` and divides it by its length `B.ajj` -/
theorem gramSchmidt_upper {B : M3 ℝ} (h10 : B.a10 = 0) (h20 : B.a20 = 0) (h21 : B.a21 = 0)
    (p0 : 0 < B.a00) (p1 : 0 < B.a11) (p2 : 0 < B.a22) : gramSchmidt (M3.transpose B) = M3.id := by
  simp [gramSchmidt, row0, row1, row2, M3.transpose, vdiv, V3.norm, V3.normSq, V3.dot, V3.sub, V3.smul, M3.ofCols, M3.id, h10, h20, h21,
    Real.sqrt_mul_self, p0.le, p1.le, p2.le, p0.ne', p1.ne', p2.ne']

/-- uniqueness of the QR factorisation, as the fit uses it: the rows of `(U·B)ᵀ` are the columns of `U·B`, and Gram–Schmidt on them returns `U` -/
theorem gramSchmidt_recovers_U (U B : M3 ℝ) (hU : IsRot U) (h10 : B.a10 = 0) (h20 : B.a20 = 0) (h21 : B.a21 = 0)
    (p0 : 0 < B.a00) (p1 : 0 < B.a11) (p2 : 0 < B.a22) :
    gramSchmidt (M3.transpose (M3.mul U B)) = U := by
  rw [gramSchmidt_rot hU, gramSchmidt_upper h10 h20 h21 p0 p1 p2, M3.mul_id]

/-! ## the direct cell recovered from the fitted reciprocal basis -/

/-- the three direct-lattice vectors computed by `_fit_ub_uncon` from the rows of `b` -/
def directVecs (b : M3 ℝ) : V3 ℝ × V3 ℝ × V3 ℝ :=
  let b1 := row0 b; let b2 := row1 b; let b3 := row2 b
  let V := V3.dot (V3.cross b1 b2) b3
  (V3.smul (2 * Real.pi / V) (V3.cross b2 b3), V3.smul (2 * Real.pi / V) (V3.cross b3 b1), V3.smul (2 * Real.pi / V) (V3.cross b1 b2))

def gram (a : V3 ℝ × V3 ℝ × V3 ℝ) : M3 ℝ :=
  ⟨V3.dot a.1 a.1, V3.dot a.1 a.2.1, V3.dot a.1 a.2.2, V3.dot a.2.1 a.1, V3.dot a.2.1 a.2.1, V3.dot a.2.1 a.2.2,
   V3.dot a.2.2 a.1, V3.dot a.2.2 a.2.1, V3.dot a.2.2 a.2.2⟩

/-- the columns of the adjugate are the cross products of the rows -/
theorem adj_eq_ofCols (b : M3 ℝ) :
    M3.adj b = M3.ofCols (V3.cross (row1 b) (row2 b)) (V3.cross (row2 b) (row0 b)) (V3.cross (row0 b) (row1 b)) := by
  simp only [M3.adj, M3.ofCols, V3.cross, row0, row1, row2]; congr 1 <;> ring

/-- as columns, the direct vectors are `2π b⁻¹`: the reciprocal basis of the rows of `b` -/
theorem ofCols_directVecs (b : M3 ℝ) :
    M3.ofCols (directVecs b).1 (directVecs b).2.1 (directVecs b).2.2 = M3.smul (2 * Real.pi) (M3.inv b) := by
  -- the triple product of the rows is the determinant (`ofCols` of the rows is the transpose)
  have hV : V3.dot (V3.cross (row0 b) (row1 b)) (row2 b) = M3.det b := (M3.det_ofCols _ _ _).symm.trans (M3.det_transpose b)
  rw [M3.inv, adj_eq_ofCols, M3.smul_smul, rs_one, mul_one_div, ← hV]
  rfl

/-- for `b = (U·B)ᵀ` with `U` a rotation the Gram matrix of the direct vectors is the metric tensor of the cell -/
theorem gram_is_G (U : M3 ℝ) (hU : IsRot U) (k : C06.Cell) : gram (directVecs (M3.transpose (M3.mul U k.B))) = k.G := by
  have hdX : M3.det (M3.mul U k.B) ≠ 0 := hU.det_mul_ne_zero k.det_B_ne
  -- as columns the vectors are `2π ((U B)ᵀ)⁻¹ = U Dᵀ`: the direct basis of the cell, turned by `U`
  have hA : M3.smul (2 * Real.pi) (M3.inv (M3.transpose (M3.mul U k.B))) = M3.mul U (M3.transpose k.D) := by
    rw [M3.inv_transpose _ hdX, M3.inv_mul _ _ hU.det_ne_zero k.det_B_ne, hU.inv_eq, M3.transpose_mul, M3.transpose_transpose, k.inv_B,
      M3.transpose_smul, M3.mul_smul, M3.smul_smul, mul_one_div_cancel (by positivity), M3.one_smul]
  rw [gram, ← M3.transpose_mul_ofCols, ofCols_directVecs, hA, M3.transpose_mul, M3.transpose_transpose, M3.mul_assoc',
    ← M3.mul_assoc' (M3.transpose U), hU.1, M3.id_mul, ← k.G_eq]

/-- **C15, triclinic fit, lattice**: the cell computed from the fitted basis of exactly consistent data is the true cell -/
theorem cellOfRecip_recovers (U : M3 ℝ) (hU : IsRot U) (k : C06.Cell) :
    cellOfRecip (M3.transpose (M3.mul U k.B)) = (k.a1, k.a2, k.a3, toDeg k.al1, toDeg k.al2, toDeg k.al3) := by
  have hg := gram_is_G U hU k
  simp only [gram, directVecs, C06.Cell.G, M3.mk.injEq] at hg
  obtain ⟨g00, g01, g02, -, g11, g12, -, -, g22⟩ := hg
  have nrm : ∀ (w : V3 ℝ) (a : ℝ), 0 < a → V3.dot w w = a * a → V3.norm w = a := by
    intro w a ha hw; simp only [V3.norm, V3.normSq, rs_sqrt]; rw [hw, Real.sqrt_mul_self ha.le]
  have n1 := nrm _ _ k.ha1 g00
  have n2 := nrm _ _ k.ha2 g11
  have n3 := nrm _ _ k.ha3 g22
  have ha1 := k.ha1.ne'; have ha2 := k.ha2.ne'; have ha3 := k.ha3.ne'
  simp only [cellOfRecip, rs_two, rs_pi, rs_acos]
  rw [n1, n2, n3, g12, g02, g01]
  simp only [C06.Cell.c1, C06.Cell.c2, C06.Cell.c3, mul_div_cancel_left₀ _ (mul_ne_zero ha2 ha3), mul_div_cancel_left₀ _ (mul_ne_zero ha1 ha3),
    mul_div_cancel_left₀ _ (mul_ne_zero ha1 ha2), Real.arccos_cos k.h1.1.le k.h1.2.le, Real.arccos_cos k.h2.1.le k.h2.2.le,
    Real.arccos_cos k.h3.1.le k.h3.2.le]

/-- **C15, triclinic fit**: exactly consistent reflections ⇒ `fit_ub` returns exactly the true `U` and the true cell -/
theorem fitUncon_exact (U : M3 ℝ) (hU : IsRot U) (k : C06.Cell) (refl : List (V3 ℝ × V3 ℝ × ℝ))
    (hcons : ∀ r ∈ refl, V3.smul (2 * Real.pi / (12.39842 / r.2.2)) r.2.1 = M3.mulVec (M3.mul U k.B) r.1)
    (hdet : M3.det (xtx (refl.map fun r => (r.1, V3.smul (2 * Real.pi / (12.39842 / r.2.2)) r.2.1))) ≠ 0) :
    fitUncon refl = (U, (k.a1, k.a2, k.a3, toDeg k.al1, toDeg k.al2, toDeg k.al3)) := by
  obtain ⟨h10, h20, h21, p0, p1, p2⟩ := k.B_upper_pos
  have hc : (Scalar.ofSci 1239842 true 5 : ℝ) = 12.39842 := by simp only [Scalar.ofSci]
  have hl := lsq_exact (M3.mul U k.B) _ (fun p hp => by obtain ⟨r, hr, rfl⟩ := List.mem_map.mp hp; exact hcons r hr) hdet
  simp only [fitUncon, rs_two, rs_pi, hc, hl, gramSchmidt_recovers_U U k.B hU h10 h20 h21 p0 p1 p2, cellOfRecip_recovers U hU k]

/-- **C15, triclinic fit**: reflections exactly consistent with an orientation `U ∈ SO(3)` and a cell `k` (that is `q_i·2π/λ_i = U·B·hkl_i`, with
    enough of them for `XᵀX` to be invertible) ⇒ the closed-form fit returns exactly `U` -/
theorem fitUncon_recovers_U (U : M3 ℝ) (hU : IsRot U) (k : C06.Cell) (refl : List (V3 ℝ × V3 ℝ × ℝ))
    (hcons : ∀ r ∈ refl, V3.smul (2 * Real.pi / (12.39842 / r.2.2)) r.2.1 = M3.mulVec (M3.mul U k.B) r.1)
    (hdet : M3.det (xtx (refl.map fun r => (r.1, V3.smul (2 * Real.pi / (12.39842 / r.2.2)) r.2.1))) ≠ 0) :
    (fitUncon refl).1 = U := by
  rw [fitUncon_exact U hU k refl hcons hdet]

/-! ## names this property's check refers to; each restates a fact proved elsewhere -/

theorem smul_mul (c : ℝ) (a b : M3 ℝ) : M3.mul (M3.smul c a) b = M3.smul c (M3.mul a b) := M3.smul_mul c a b
end
end C15
