import Diffcalc.Gen.Rotations
import Diffcalc.Model.Miscut
import DiffcalcProofs.Lemmas.Vector
/-!
# Axis rotations: the generated constructors against the specification

`M3.rotX/rotY/rotZ` are the right-handed rotations about `e_x, e_y, e_z` (they *are* the Rodrigues matrices about those
axes: `rotX_eq_rodrigues` …).  The constructors GENERATED from `util.py` / `geometry.py` are shown equal to them,
so a transposed matrix or a flipped axis sense in the source breaks these lemmas.

Of the Rodrigues rotation two facts carry everything said about it anywhere: what it does to a vector (`rodMat_apply`,
Rodrigues' formula, no hypothesis) and that it is a proper rotation for a unit axis and `c² + s² = 1` (`rodMat_isRot`).  That the
axis rotations are proper, and inverted by transposition, are the instances `e_x, e_y, e_z`.  The GENERATED quaternion constructor
`Gen.get_rot_matrix` is proper by the same column criterion.
-/
noncomputable section
open M3

theorem gen_x_rotation (t : ℝ) : Gen.x_rotation t = rotX t := by
  simp only [Gen.x_rotation, rotX, rs_ofNat, rs_one, rs_zero, Nat.cast_one, Nat.cast_zero]
theorem gen_y_rotation (t : ℝ) : Gen.y_rotation t = rotY t := by
  simp only [Gen.y_rotation, rotY, rs_ofNat, rs_one, rs_zero, Nat.cast_one, Nat.cast_zero]
theorem gen_z_rotation (t : ℝ) : Gen.z_rotation t = rotZ t := by
  simp only [Gen.z_rotation, rotZ, rs_ofNat, rs_one, rs_zero, Nat.cast_one, Nat.cast_zero]

/-- axis senses of You (1999): mu, nu right-handed about x; chi right-handed about y; delta, eta, phi left-handed about z -/
theorem gen_rot_senses (t : ℝ) :
    Gen.rot_MU t = rotX t ∧ Gen.rot_NU t = rotX t ∧ Gen.rot_CHI t = rotY t ∧
    Gen.rot_DELTA t = rotZ (-t) ∧ Gen.rot_ETA t = rotZ (-t) ∧ Gen.rot_PHI t = rotZ (-t) := by
  simp only [Gen.rot_MU, Gen.rot_NU, Gen.rot_CHI, Gen.rot_DELTA, Gen.rot_ETA, Gen.rot_PHI,
    gen_x_rotation, gen_y_rotation, gen_z_rotation, and_self]

theorem rot_periodic (t : ℝ) :
    rotX (t + 2 * Real.pi) = rotX t ∧ rotY (t + 2 * Real.pi) = rotY t ∧ rotZ (t + 2 * Real.pi) = rotZ t := by
  simp only [rotX, rotY, rotZ, rs_cos, rs_sin, Real.cos_add_two_pi, Real.sin_add_two_pi, and_self]

theorem rotZ_neg_periodic (t : ℝ) : rotZ (-(t + 2 * Real.pi)) = rotZ (-t) := by
  simp only [rotZ, rs_cos, rs_sin, Real.cos_neg, Real.sin_neg, Real.cos_add_two_pi, Real.sin_add_two_pi]

theorem rotZ_add (a b : ℝ) : M3.mul (rotZ a) (rotZ b) = rotZ (a + b) := by
  simp only [M3.mul, rotZ, rs_cos, rs_sin, rs_one, rs_zero, Real.cos_add, Real.sin_add]
  congr 1 <;> ring

/-! ## the Rodrigues rotation -/

namespace C08
/-- the Rodrigues matrix on explicit unit components and explicit cosine / sine -/
def rodMat (kx ky kz c s : ℝ) : M3 ℝ :=
  ⟨c + kx * kx * (1 - c), kx * ky * (1 - c) - kz * s, kx * kz * (1 - c) + ky * s,
   ky * kx * (1 - c) + kz * s, c + ky * ky * (1 - c), ky * kz * (1 - c) - kx * s,
   kz * kx * (1 - c) - ky * s, kz * ky * (1 - c) + kx * s, c + kz * kz * (1 - c)⟩

theorem rodrigues_eq (k : V3 ℝ) (t : ℝ) :
    rodrigues k t = rodMat (k.x / V3.norm k) (k.y / V3.norm k) (k.z / V3.norm k) (Real.cos t) (Real.sin t) := by
  simp only [rodrigues, rodMat, rs_one, rs_cos, rs_sin]

/-- the first two columns are orthonormal and the third is their cross product; the cofactors say how each entry reduces to
    the two constraints -/
theorem rodMat_isRot (kx ky kz c s : ℝ) (hk : kx ^ 2 + ky ^ 2 + kz ^ 2 = 1) (hcs : s ^ 2 + c ^ 2 = 1) :
    IsRot (rodMat kx ky kz c s) := by
  apply isRot_of_cross_eq_col
  · simp only [col, rodMat, V3.dot]
    linear_combination (kx ^ 2 * (1 - c) ^ 2 + s ^ 2) * hk + (1 - kx ^ 2) * hcs
  · simp only [col, rodMat, V3.dot]
    linear_combination (ky ^ 2 * (1 - c) ^ 2 + s ^ 2) * hk + (1 - ky ^ 2) * hcs
  · simp only [col, rodMat, V3.dot]
    linear_combination kx * ky * (1 - c) ^ 2 * hk - kx * ky * hcs
  · ext <;> simp only [col, rodMat, V3.cross]
    · linear_combination ky * s * (1 - c) * hk + kx * kz * hcs
    · linear_combination -kx * s * (1 - c) * hk + ky * kz * hcs
    · linear_combination c * (1 - c) * hk + kz ^ 2 * hcs

theorem unit_comps (k : V3 ℝ) (hk : 0 < V3.norm k) :
    (k.x / V3.norm k)^2 + (k.y / V3.norm k)^2 + (k.z / V3.norm k)^2 = 1 := by
  simp only [pow_two]; exact V3.dot_unit_self hk

theorem rodrigues_isRot (k : V3 ℝ) (t : ℝ) (hk : 0 < V3.norm k) : IsRot (rodrigues k t) := by
  rw [rodrigues_eq]
  exact rodMat_isRot _ _ _ _ _ (unit_comps k hk) (Real.sin_sq_add_cos_sq t)
end C08

namespace M3
open C08

/-- Rodrigues' formula: `R x = c x + s (k × x) + (1 − c)(k·x) k` -/
theorem rodMat_apply (kx ky kz c s : ℝ) (x : V3 ℝ) :
    mulVec (rodMat kx ky kz c s) x =
      V3.add (V3.add (V3.smul c x) (V3.smul s (V3.cross ⟨kx, ky, kz⟩ x))) (V3.smul ((1 - c) * V3.dot ⟨kx, ky, kz⟩ x) ⟨kx, ky, kz⟩) := by
  simp only [mulVec, rodMat, V3.add, V3.smul, V3.cross, V3.dot]; congr 1 <;> ring

theorem rodMat_axis {kx ky kz : ℝ} (hk : kx ^ 2 + ky ^ 2 + kz ^ 2 = 1) (c s : ℝ) :
    mulVec (rodMat kx ky kz c s) ⟨kx, ky, kz⟩ = ⟨kx, ky, kz⟩ := by
  -- Rodrigues' formula at `x = k`: `k × k = 0`, and `c k + (1 − c)(k·k) k = k`
  have hkk : V3.dot ⟨kx, ky, kz⟩ ⟨kx, ky, kz⟩ = (1 : ℝ) := by simp only [pow_two] at hk; exact hk
  rw [rodMat_apply, V3.cross_self, hkk, mul_one]
  ext <;> simp only [V3.add, V3.smul] <;> ring

/-- the axis enters through its direction only -/
theorem rodrigues_apply (k x : V3 ℝ) (t : ℝ) :
    mulVec (rodrigues k t) x =
      V3.add (V3.add (V3.smul (Real.cos t) x) (V3.smul (Real.sin t) (V3.cross (V3.unit k) x)))
        (V3.smul ((1 - Real.cos t) * V3.dot (V3.unit k) x) (V3.unit k)) := by
  rw [rodrigues_eq, rodMat_apply]; rfl

theorem rodrigues_smul_axis {c : ℝ} (hc : 0 < c) (k : V3 ℝ) (t : ℝ) : rodrigues (V3.smul c k) t = rodrigues k t := by
  have h := V3.unit_smul hc k
  rw [rodrigues_eq, rodrigues_eq]
  exact congrArg (fun u : V3 ℝ => rodMat u.x u.y u.z (Real.cos t) (Real.sin t)) h

theorem rodrigues_unit_axis {k : V3 ℝ} (hk : 0 < V3.norm k) (t : ℝ) : rodrigues (V3.unit k) t = rodrigues k t := by
  rw [← V3.smul_inv_norm, rodrigues_smul_axis (one_div_pos.mpr hk)]

/-- Rodrigues' formula, for a unit axis -/
theorem rodrigues_apply_of_norm_one (k x : V3 ℝ) (t : ℝ) (hk : V3.norm k = 1) :
    mulVec (rodrigues k t) x =
      V3.add (V3.add (V3.smul (Real.cos t) x) (V3.smul (Real.sin t) (V3.cross k x))) (V3.smul ((1 - Real.cos t) * V3.dot k x) k) := by
  rw [rodrigues_apply, V3.unit_of_norm_one hk]

/-! for a unit axis `k` and a unit vector `w ⟂ k`: `R w = cos t · w + sin t · (k × w)`, `w × R w = sin t · k`, `w · R w = cos t` -/

theorem rodrigues_apply_perp {k w : V3 ℝ} (t : ℝ) (hk : V3.norm k = 1) (hperp : V3.dot k w = 0) :
    mulVec (rodrigues k t) w = V3.add (V3.smul (Real.cos t) w) (V3.smul (Real.sin t) (V3.cross k w)) := by
  rw [rodrigues_apply_of_norm_one _ _ _ hk, hperp]
  ext <;> simp [V3.add, V3.smul]

theorem cross_rodrigues_perp {k w : V3 ℝ} (t : ℝ) (hk : V3.norm k = 1) (hw : V3.dot w w = 1) (hperp : V3.dot k w = 0) :
    V3.cross w (mulVec (rodrigues k t) w) = V3.smul (Real.sin t) k := by
  rw [rodrigues_apply_perp t hk hperp, V3.cross_add_right, V3.cross_smul_right, V3.cross_smul_right, V3.cross_self, V3.cross_cross_right, hw,
    V3.dot_comm w k, hperp]
  ext <;> simp only [V3.add, V3.smul, V3.sub] <;> ring

theorem dot_rodrigues_perp {k w : V3 ℝ} (t : ℝ) (hk : V3.norm k = 1) (hw : V3.dot w w = 1) (hperp : V3.dot k w = 0) :
    V3.dot w (mulVec (rodrigues k t) w) = Real.cos t := by
  rw [rodrigues_apply_perp t hk hperp, V3.dot_comm, V3.dot_add_left, V3.dot_smul_left, V3.dot_smul_left, hw, V3.dot_cross_right_self]
  ring

/-- the rotation about `a × b` by `acos (a·b)` takes the unit vector `a` onto the unit vector `b` -/
theorem rodrigues_align {a b : V3 ℝ} (ha : V3.dot a a = 1) (hb : V3.dot b b = 1) (hs : 0 < V3.norm (V3.cross a b)) :
    mulVec (rodrigues (V3.cross a b) (Real.arccos (V3.dot a b))) a = b := by
  have hab := V3.abs_dot_le_one ha.le hb.le
  -- `k × a` with `k` along `a × b`: `(a × b) × a = b − (a·b) a`; the sine `|a × b|` cancels the normalisation of the axis
  rw [rodrigues_apply, cos_arccos_of_abs_le hab, V3.sin_arccos_dot ha hb, ← V3.smul_inv_norm,
    V3.cross_smul_left, V3.dot_smul_left, V3.dot_cross_left_self, V3.cross_cross_left, ha,
    V3.smul_smul, mul_one_div_cancel hs.ne', V3.one_smul, mul_zero, mul_zero]
  ext <;> simp only [V3.add, V3.smul, V3.sub] <;> ring

end M3

/-! ## the axis rotations are the Rodrigues rotations about the coordinate axes, hence proper -/

theorem norm_ex : V3.norm (V3.ex : V3 ℝ) = 1 := by simp [V3.norm, V3.normSq, V3.dot, V3.ex]
theorem norm_ey : V3.norm (V3.ey : V3 ℝ) = 1 := by simp [V3.norm, V3.normSq, V3.dot, V3.ey]
theorem norm_ez : V3.norm (V3.ez : V3 ℝ) = 1 := by simp [V3.norm, V3.normSq, V3.dot, V3.ez]

theorem rotX_eq_rodrigues (t : ℝ) : rotX t = rodrigues V3.ex t := by
  simp only [rotX, rodrigues, norm_ex]; simp [V3.ex]
theorem rotY_eq_rodrigues (t : ℝ) : rotY t = rodrigues V3.ey t := by
  simp only [rotY, rodrigues, norm_ey]; simp [V3.ey]
theorem rotZ_eq_rodrigues (t : ℝ) : rotZ t = rodrigues V3.ez t := by
  simp only [rotZ, rodrigues, norm_ez]; simp [V3.ez]

theorem isRot_rotX (t : ℝ) : IsRot (rotX t) := by
  rw [rotX_eq_rodrigues]; exact C08.rodrigues_isRot _ t (V3.norm_pos_of_norm_one norm_ex)
theorem isRot_rotY (t : ℝ) : IsRot (rotY t) := by
  rw [rotY_eq_rodrigues]; exact C08.rodrigues_isRot _ t (V3.norm_pos_of_norm_one norm_ey)
theorem isRot_rotZ (t : ℝ) : IsRot (rotZ t) := by
  rw [rotZ_eq_rodrigues]; exact C08.rodrigues_isRot _ t (V3.norm_pos_of_norm_one norm_ez)

/-- `numpy.linalg.inv` (adjugate / determinant) of an axis rotation is its transpose -/
theorem inv_rotX (t : ℝ) : M3.inv (rotX t) = M3.transpose (rotX t) := (isRot_rotX t).inv_eq
theorem inv_rotY (t : ℝ) : M3.inv (rotY t) = M3.transpose (rotY t) := (isRot_rotY t).inv_eq
theorem inv_rotZ (t : ℝ) : M3.inv (rotZ t) = M3.transpose (rotZ t) := (isRot_rotZ t).inv_eq

/-! ## the quaternion constructor of `ub/fitting.py` -/

/-- `_get_rot_matrix` of a unit quaternion is a proper rotation, by the same criterion as `rodMat_isRot` -/
theorem C08.isRot_get_rot_matrix {q0 q1 q2 q3 : ℝ} (hq : q0 ^ 2 + q1 ^ 2 + q2 ^ 2 + q3 ^ 2 = 1) :
    IsRot (Gen.get_rot_matrix q0 q1 q2 q3) := by
  apply isRot_of_cross_eq_col
  · simp only [Gen.get_rot_matrix, col, V3.dot, rs_ofNat, Nat.cast_ofNat]
    linear_combination (q0 ^ 2 + q1 ^ 2 + q2 ^ 2 + q3 ^ 2 + 1) * hq
  · simp only [Gen.get_rot_matrix, col, V3.dot, rs_ofNat, Nat.cast_ofNat]
    linear_combination (q0 ^ 2 + q1 ^ 2 + q2 ^ 2 + q3 ^ 2 + 1) * hq
  · simp only [Gen.get_rot_matrix, col, V3.dot, rs_ofNat, Nat.cast_ofNat]
    ring
  · ext <;> simp only [Gen.get_rot_matrix, col, V3.cross, rs_ofNat, Nat.cast_ofNat]
    · linear_combination (2 * (q1 * q3 + q0 * q2)) * hq
    · linear_combination (2 * (q2 * q3 - q0 * q1)) * hq
    · linear_combination (q0 * q0 - q1 * q1 - q2 * q2 + q3 * q3) * hq
end
