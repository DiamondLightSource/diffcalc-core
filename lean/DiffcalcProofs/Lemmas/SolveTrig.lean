import DiffcalcProofs.Lemmas.Small
/-!
# Angles modulo 2π, the equation `p₀ cos t + p₁ sin t = c`, and planar rotations fixed by `atan2`

Every branch of `calc_sample.py` / `calc_reference.py` solves its first unknown from a linear equation in `cos t`, `sin t`
(root pair `asin`/`acos`, shifted by an `atan2`) and its last unknown from a planar rotation (`atan2` of cross and dot
product).  Both rest on the polar form `(x, y) = hypot x y · (cos, sin)(atan2 y x)`, which needs no side condition:
harmonic addition (`lin_cos`, `lin_sin`, `lin_sin_add`) turns the linear equation into `cos u = x` or `sin u = x`, whose
roots modulo 2π are `cos_eq_iff`, `sin_eq_iff` (`asin_branch_iff`, `acos_branch_iff`: the same with the code's own division by `hypot`);
`polar_of_sq` reads an angle off a point of a circle of known radius.
-/
noncomputable section

/-! ## polar form -/

theorem hypot_eq_norm (x y : ℝ) : Scalar.hypot x y = ‖(⟨x, y⟩ : ℂ)‖ := by
  simp only [Scalar.hypot, rs_sqrt, Complex.norm_def, Complex.normSq_apply]

theorem hypot_mul_cos_atan2 (x y : ℝ) : Scalar.hypot x y * Real.cos (atan2R y x) = x := by
  rw [hypot_eq_norm, atan2R]; exact Complex.norm_mul_cos_arg _

theorem hypot_mul_sin_atan2 (x y : ℝ) : Scalar.hypot x y * Real.sin (atan2R y x) = y := by
  rw [hypot_eq_norm, atan2R]; exact Complex.norm_mul_sin_arg _

theorem hypot_nonneg (x y : ℝ) : 0 ≤ Scalar.hypot x y := Real.sqrt_nonneg _

theorem hypot_comm (x y : ℝ) : Scalar.hypot x y = Scalar.hypot y x := by
  simp only [Scalar.hypot, add_comm]

theorem sq_hypot (x y : ℝ) : Scalar.hypot x y ^ 2 = x ^ 2 + y ^ 2 := by
  rw [Scalar.hypot, rs_sqrt, Real.sq_sqrt (add_nonneg (mul_self_nonneg x) (mul_self_nonneg y)), pow_two, pow_two]

/-- `hypot` is the non-negative number with the right square -/
theorem hypot_eq_of_sq {x y r : ℝ} (hr : 0 ≤ r) (h : x ^ 2 + y ^ 2 = r ^ 2) : Scalar.hypot x y = r := by
  rw [← Real.sqrt_sq hr, ← h]; simp only [Scalar.hypot, rs_sqrt, pow_two]

theorem sq_add_sq_eq_zero {x y : ℝ} : x ^ 2 + y ^ 2 = 0 ↔ x = 0 ∧ y = 0 := by
  rw [pow_two, pow_two]; exact mul_self_add_mul_self_eq_zero

theorem pos_of_sq_add_sq {a b r : ℝ} (h : a ^ 2 + b ^ 2 = r) (hr : r ≠ 0) : 0 < r :=
  ((add_nonneg (sq_nonneg a) (sq_nonneg b)).trans_eq h).lt_of_ne' hr

theorem hypot_pos_iff {x y : ℝ} : 0 < Scalar.hypot x y ↔ x ≠ 0 ∨ y ≠ 0 := by
  rw [(hypot_nonneg x y).lt_iff_ne, ne_comm, Ne, ← sq_eq_zero_iff, sq_hypot, sq_add_sq_eq_zero, not_and_or]

/-- what the code tests before dividing by a `hypot` -/
theorem hypot_pos_of_not_small {x y : ℝ} (h : (Scalar.isSmall x && Scalar.isSmall y) = false) : 0 < Scalar.hypot x y := by
  refine hypot_pos_iff.mpr (not_and_or.mp fun hc => ?_)
  rw [hc.1, hc.2, C01.isSmall_zero] at h
  cases h

/-- the shape of the radicands the sample and reference branches hand to `sqrt` -/
theorem sumsq_nonneg (a b c : ℝ) : 0 ≤ a * a * (b * b) + c * c :=
  add_nonneg (mul_nonneg (mul_self_nonneg a) (mul_self_nonneg b)) (mul_self_nonneg c)

/-- … and the `hypot` it is: `calc_reference.py` writes the radicand out -/
theorem sqrt_sumsq (a b c : ℝ) : Real.sqrt (a * a * (b * b) + c * c) = Scalar.hypot (a * b) c := by
  simp only [Scalar.hypot, rs_sqrt]; congr 1; ring

/-- a point on the circle of radius `r` about the origin is `r · (cos, sin)` of its `atan2` -/
theorem polar_of_sq {x y r : ℝ} (hr : 0 ≤ r) (h : x ^ 2 + y ^ 2 = r ^ 2) :
    r * Real.cos (atan2R y x) = x ∧ r * Real.sin (atan2R y x) = y := by
  rw [← hypot_eq_of_sq hr h]; exact ⟨hypot_mul_cos_atan2 x y, hypot_mul_sin_atan2 x y⟩

/-- the same in space, spherical coordinates about `ŷ`: a vector is given by its `y` component, the length `ρ` of its projection on the
    x–z plane and the azimuth `atan2(x, z)` -/
theorem eq_of_atan2 {v : V3 ℝ} {ρ : ℝ} (hρ : 0 ≤ ρ) (h : v.z ^ 2 + v.x ^ 2 = ρ ^ 2) :
    v = ⟨ρ * Real.sin (atan2R v.x v.z), v.y, ρ * Real.cos (atan2R v.x v.z)⟩ := by
  obtain ⟨hc, hs⟩ := polar_of_sq hρ h
  rw [hc, hs]

/-! ## angles modulo 2π -/

namespace C03
/-- two angles are equal modulo 2π (stated through sine and cosine) -/
def SameAngle (a b : ℝ) : Prop := Real.sin a = Real.sin b ∧ Real.cos a = Real.cos b

theorem sameAngle_refl (a : ℝ) : SameAngle a a := ⟨rfl, rfl⟩

theorem sameAngle_of_eq {a b : ℝ} (h : a = b) : SameAngle a b := h ▸ sameAngle_refl a

theorem sameAngle_symm {a b : ℝ} (h : SameAngle a b) : SameAngle b a := ⟨h.1.symm, h.2.symm⟩

theorem SameAngle.trans {a b c : ℝ} (h : SameAngle a b) (h' : SameAngle b c) : SameAngle a c :=
  ⟨h.1.trans h'.1, h.2.trans h'.2⟩

theorem sameAngle_add (a b e : ℝ) (h : SameAngle a b) : SameAngle (a + e) (b + e) :=
  ⟨by rw [Real.sin_add, Real.sin_add, h.1, h.2], by rw [Real.cos_add, Real.cos_add, h.1, h.2]⟩

theorem sameAngle_add_iff {a b e : ℝ} : SameAngle (a + e) (b + e) ↔ SameAngle a b :=
  ⟨fun h => by simpa using sameAngle_add _ _ (-e) h, sameAngle_add a b e⟩

theorem sameAngle_sub_iff {t e c : ℝ} : SameAngle (t - e) c ↔ SameAngle t (c + e) := by
  rw [← sameAngle_add_iff (e := e), sub_add_cancel]

/-! ## the roots of `sin t = x`, `cos t = x`, `tan t = x` modulo 2π -/

/-- `sin a = sin s` has the roots `s`, `π − s` and no others -/
theorem sin_eq_sin_iff {a s : ℝ} : Real.sin a = Real.sin s ↔ SameAngle a s ∨ SameAngle a (Real.pi - s) := by
  constructor
  · intro h
    have hsq : Real.cos a ^ 2 = Real.cos s ^ 2 := by rw [Real.cos_sq', Real.cos_sq', h]
    rcases sq_eq_sq_iff_eq_or_eq_neg.mp hsq with h1 | h1
    · exact Or.inl ⟨h, h1⟩
    · exact Or.inr ⟨by rw [Real.sin_pi_sub, h], by rw [Real.cos_pi_sub, h1]⟩
  · rintro (h | h)
    · exact h.1
    · rw [h.1, Real.sin_pi_sub]

/-- `cos a = cos c` has the roots `c`, `−c` and no others: the same a quarter turn on -/
theorem cos_eq_cos_iff {a c : ℝ} : Real.cos a = Real.cos c ↔ SameAngle a c ∨ SameAngle a (-c) := by
  rw [← Real.sin_add_pi_div_two, ← Real.sin_add_pi_div_two c, sin_eq_sin_iff, sameAngle_add_iff,
    show Real.pi - (c + Real.pi / 2) = -c + Real.pi / 2 by ring, sameAngle_add_iff]

/-- every solution of `sin t = x` is `asin x` or `π − asin x` modulo 2π -/
theorem asin_roots_complete (t x : ℝ) (hx : |x| ≤ 1) (h : Real.sin t = x) :
    SameAngle t (Real.arcsin x) ∨ SameAngle t (Real.pi - Real.arcsin x) :=
  sin_eq_sin_iff.mp (by rw [h, sin_arcsin_of_abs_le hx])

/-- every solution of `cos t = x` is `acos x` or `−acos x` modulo 2π -/
theorem acos_roots_complete (t x : ℝ) (hx : |x| ≤ 1) (h : Real.cos t = x) :
    SameAngle t (Real.arccos x) ∨ SameAngle t (-Real.arccos x) :=
  cos_eq_cos_iff.mp (by rw [h, cos_arccos_of_abs_le hx])

/-- a root pair `x ± a` around a centre: every angle whose cosine distance from the centre is `cos a` is one of them -/
theorem pm_roots (z c a : ℝ) (ha0 : 0 ≤ a) (hapi : a ≤ Real.pi) (h : Real.cos (z - c) = Real.cos a) :
    SameAngle z (c - a) ∨ SameAngle z (c + a) := by
  rcases cos_eq_cos_iff.mp h with h1 | h1
  · exact .inr (add_comm a c ▸ sameAngle_sub_iff.mp h1)
  · exact .inl (sub_eq_neg_add c a ▸ sameAngle_sub_iff.mp h1)

/-- `sin t = x` holds iff `x` is in the range of `asin` and `t` is one of the two roots -/
theorem sin_eq_iff {t x : ℝ} :
    Real.sin t = x ↔ |x| ≤ 1 ∧ (SameAngle t (Real.arcsin x) ∨ SameAngle t (Real.pi - Real.arcsin x)) := by
  constructor
  · intro h
    have hx : |x| ≤ 1 := h ▸ Real.abs_sin_le_one t
    exact ⟨hx, asin_roots_complete t x hx h⟩
  · rintro ⟨hx, h⟩
    rw [sin_eq_sin_iff.mpr h, sin_arcsin_of_abs_le hx]

theorem cos_eq_iff {t x : ℝ} :
    Real.cos t = x ↔ |x| ≤ 1 ∧ (SameAngle t (Real.arccos x) ∨ SameAngle t (-Real.arccos x)) := by
  constructor
  · intro h
    have hx : |x| ≤ 1 := h ▸ Real.abs_cos_le_one t
    exact ⟨hx, acos_roots_complete t x hx h⟩
  · rintro ⟨hx, h⟩
    rw [cos_eq_cos_iff.mpr h, cos_arccos_of_abs_le hx]

/-- `tan m = x` with `cos m ≠ 0` has exactly the roots `atan x`, `atan x + π` modulo 2π -/
theorem atan_roots_complete (m x : ℝ) (hc : Real.cos m ≠ 0) (h : Real.tan m = x) :
    SameAngle m (Real.arctan x) ∨ SameAngle m (Real.arctan x + Real.pi) := by
  -- `tan m = tan a` with both cosines non-zero is `sin (m − a) = 0 = sin 0`
  have hca : Real.cos (Real.arctan x) ≠ 0 := (Real.cos_arctan_pos x).ne'
  have h0 : Real.sin (m - Real.arctan x) = Real.sin 0 := by
    rw [← Real.tan_arctan x, Real.tan_eq_sin_div_cos, Real.tan_eq_sin_div_cos, div_eq_div_iff hc hca] at h
    rw [Real.sin_sub, Real.sin_zero]; linear_combination h
  rcases sin_eq_sin_iff.mp h0 with h1 | h1
  · exact Or.inl (by simpa using sameAngle_sub_iff.mp h1)
  · exact Or.inr (by simpa [add_comm] using sameAngle_sub_iff.mp h1)

/-! ## an angle read off by `atan2`, or fixed by a planar rotation equation, is determined modulo 2π -/

theorem sameAngle_atan2 (y x r a : ℝ) (hr : 0 < r) (hy : y = r * Real.sin a) (hx : x = r * Real.cos a) : SameAngle (atan2R y x) a := by
  obtain ⟨hc, hs⟩ := polar_of_sq hr.le
    (show x ^ 2 + y ^ 2 = r ^ 2 by rw [hx, hy]; linear_combination r ^ 2 * Real.sin_sq_add_cos_sq a)
  exact ⟨mul_left_cancel₀ hr.ne' (by rw [hs, hy]), mul_left_cancel₀ hr.ne' (by rw [hc, hx])⟩

/-- two angles solving the same non-degenerate planar rotation equations are equal modulo 2π -/
theorem sameAngle_of_rot (a b u v x y : ℝ) (hne : a ^ 2 + b ^ 2 ≠ 0)
    (hx1 : a * Real.cos x + b * Real.sin x = u) (hx2 : -a * Real.sin x + b * Real.cos x = v)
    (hy1 : a * Real.cos y + b * Real.sin y = u) (hy2 : -a * Real.sin y + b * Real.cos y = v) : SameAngle x y :=
  ⟨mul_left_cancel₀ hne (by linear_combination b * hx1 - a * hx2 - b * hy1 + a * hy2),
   mul_left_cancel₀ hne (by linear_combination a * hx1 + b * hx2 - a * hy1 - b * hy2)⟩
end C03

open C03

/-! the solver returns the two roots as a list -/

theorem exists_mem_pair_iff {r1 r2 t : ℝ} : (∃ r ∈ [r1, r2], SameAngle r t) ↔ SameAngle t r1 ∨ SameAngle t r2 := by
  simp only [List.mem_cons, List.not_mem_nil, or_false, exists_eq_or_imp, exists_eq_left]
  exact or_congr ⟨sameAngle_symm, sameAngle_symm⟩ ⟨sameAngle_symm, sameAngle_symm⟩

theorem exists_mem_pair {r1 r2 t : ℝ} (h : SameAngle t r1 ∨ SameAngle t r2) : ∃ x ∈ [r1, r2], SameAngle x t :=
  exists_mem_pair_iff.mpr h

theorem sameAngle_of_mem_pair {r1 r2 t : ℝ} (h : t ∈ [r1, r2]) : SameAngle t r1 ∨ SameAngle t r2 := by
  simp only [List.mem_cons, List.not_mem_nil, or_false] at h
  exact h.imp sameAngle_of_eq sameAngle_of_eq

theorem sin_of_mem_asin_pair {x t : ℝ} (hx : |x| ≤ 1) (h : t ∈ [Real.arcsin x, Real.pi - Real.arcsin x]) :
    Real.sin t = x ∧ |Real.cos t| = |Real.cos (Real.arcsin x)| := by
  have hs := sin_arcsin_of_abs_le hx
  simp only [List.mem_cons, List.not_mem_nil, or_false] at h
  rcases h with rfl | rfl
  · exact ⟨hs, rfl⟩
  · rw [Real.sin_pi_sub, Real.cos_pi_sub, abs_neg]; exact ⟨hs, rfl⟩

theorem cos_of_mem_acos_pair {x t : ℝ} (hx : |x| ≤ 1) (h : t ∈ [Real.arccos x, -Real.arccos x]) : Real.cos t = x :=
  (cos_eq_cos_iff.mpr (sameAngle_of_mem_pair h)).trans (cos_arccos_of_abs_le hx)

theorem tan_of_mem_atan_pair {x t : ℝ} (h : t ∈ [Real.arctan x, Real.arctan x + Real.pi]) : Real.tan t = x := by
  simp only [List.mem_cons, List.not_mem_nil, or_false] at h
  rcases h with rfl | rfl
  · exact Real.tan_arctan x
  · rw [Real.tan_periodic, Real.tan_arctan]

theorem tan_of_mem_atan_pair' {x t : ℝ} (h : t ∈ [Real.arctan x, Real.pi + Real.arctan x]) : Real.tan t = x :=
  tan_of_mem_atan_pair (add_comm Real.pi _ ▸ h)

/-! ## the linear equation in `cos t`, `sin t` -/

/-- harmonic addition: a combination of `cos t` and `sin t` is one shifted cosine … -/
theorem lin_cos (p0 p1 t : ℝ) :
    p0 * Real.cos t + p1 * Real.sin t = Scalar.hypot p0 p1 * Real.cos (t - atan2R p1 p0) := by
  rw [Real.cos_sub]
  linear_combination (-Real.cos t) * hypot_mul_cos_atan2 p0 p1 - Real.sin t * hypot_mul_sin_atan2 p0 p1

/-- … and the orthogonal combination is the matching sine -/
theorem lin_sin (p0 p1 t : ℝ) :
    -p0 * Real.sin t + p1 * Real.cos t = -(Scalar.hypot p0 p1 * Real.sin (t - atan2R p1 p0)) := by
  rw [Real.sin_sub]
  linear_combination Real.sin t * hypot_mul_cos_atan2 p0 p1 - Real.cos t * hypot_mul_sin_atan2 p0 p1

/-- the root pair of every `acos` branch: the equation holds iff the argument `x` of the `acos` is in range and `t` is one of the two roots -/
theorem lin_cos_iff {p0 p1 : ℝ} (hr : 0 < Scalar.hypot p0 p1) (x t : ℝ) :
    p0 * Real.cos t + p1 * Real.sin t = Scalar.hypot p0 p1 * x ↔
      |x| ≤ 1 ∧ (SameAngle t (Real.arccos x + atan2R p1 p0) ∨ SameAngle t (-Real.arccos x + atan2R p1 p0)) := by
  rw [lin_cos, mul_right_inj' hr.ne', cos_eq_iff, sameAngle_sub_iff, sameAngle_sub_iff]

theorem lin_sin_iff {p0 p1 : ℝ} (hr : 0 < Scalar.hypot p0 p1) (x t : ℝ) :
    -p0 * Real.sin t + p1 * Real.cos t = -(Scalar.hypot p0 p1 * x) ↔
      |x| ≤ 1 ∧ (SameAngle t (Real.arcsin x + atan2R p1 p0) ∨ SameAngle t (Real.pi - Real.arcsin x + atan2R p1 p0)) := by
  rw [lin_sin, neg_inj, mul_right_inj' hr.ne', sin_eq_iff, sameAngle_sub_iff, sameAngle_sub_iff]

/-- the `asin` branches of `calc_sample.py`: `asin(c / hypot(p₀, p₁))` shifted by `atan2(p₁, p₀)`, and its supplement -/
theorem asin_branch_iff {p0 p1 : ℝ} (hr : 0 < Scalar.hypot p0 p1) (c t : ℝ) :
    -p0 * Real.sin t + p1 * Real.cos t = -c ↔ |c / Scalar.hypot p0 p1| ≤ 1 ∧
      (C03.SameAngle t (Real.arcsin (c / Scalar.hypot p0 p1) + atan2R p1 p0) ∨
        C03.SameAngle t (Real.pi - Real.arcsin (c / Scalar.hypot p0 p1) + atan2R p1 p0)) := by
  rw [← lin_sin_iff hr, mul_div_cancel₀ _ hr.ne']

/-- the `acos` branches: `acos(C / hypot(A, B))` shifted by `atan2(A, B)`, and its negative, solve `B cos t + A sin t = C` -/
theorem acos_branch_iff {A B : ℝ} (hr : 0 < Scalar.hypot A B) (C t : ℝ) :
    B * Real.cos t + A * Real.sin t = C ↔ |C / Scalar.hypot A B| ≤ 1 ∧
      (C03.SameAngle t (Real.arccos (C / Scalar.hypot A B) + atan2R A B) ∨
        C03.SameAngle t (-Real.arccos (C / Scalar.hypot A B) + atan2R A B)) := by
  rw [hypot_comm A B] at hr ⊢
  rw [← lin_cos_iff hr, mul_div_cancel₀ _ hr.ne']

/-! ## `p sin t + q cos t = r x` in the two spellings `calc_reference.py` chooses between -/

theorem lin_sin_add (p q t : ℝ) : p * Real.sin t + q * Real.cos t = Scalar.hypot p q * Real.sin (t + atan2R q p) := by
  rw [Real.sin_add]
  linear_combination (-Real.sin t) * hypot_mul_cos_atan2 p q - Real.cos t * hypot_mul_sin_atan2 p q

/-- `asin` spelling: roots `asin x − ε`, `π − asin x − ε` with `ε = atan2(q, p)` -/
theorem lin_sin_add_iff {p q : ℝ} (hr : 0 < Scalar.hypot p q) (x t : ℝ) :
    p * Real.sin t + q * Real.cos t = Scalar.hypot p q * x ↔
      |x| ≤ 1 ∧ (SameAngle t (Real.arcsin x - atan2R q p) ∨ SameAngle t (Real.pi - Real.arcsin x - atan2R q p)) := by
  rw [lin_sin_add, mul_right_inj' hr.ne', sin_eq_iff, ← sub_neg_eq_add t, sameAngle_sub_iff, sameAngle_sub_iff,
    ← sub_eq_add_neg, ← sub_eq_add_neg]

/-- `acos` spelling: roots `ε ± acos x` with `ε = atan2(p, q)` -/
theorem lin_cos_add_iff {p q : ℝ} (hr : 0 < Scalar.hypot p q) (x t : ℝ) :
    p * Real.sin t + q * Real.cos t = Scalar.hypot p q * x ↔
      |x| ≤ 1 ∧ (SameAngle t (atan2R p q + Real.arccos x) ∨ SameAngle t (atan2R p q - Real.arccos x)) := by
  rw [add_comm (p * _), hypot_comm, lin_cos_iff (by rwa [hypot_comm]) x t, add_comm (atan2R p q), sub_eq_neg_add]

/-- both at once, for the list the code returns: the equation holds iff `x` is in range and `t` is congruent to a member -/
theorem shifted_pair_iff {p q : ℝ} (hr : 0 < Scalar.hypot p q) (x t : ℝ) (c : Prop) [Decidable c] :
    p * Real.sin t + q * Real.cos t = Scalar.hypot p q * x ↔
      |x| ≤ 1 ∧ ∃ r ∈ (if c then [atan2R p q + Real.arccos x, atan2R p q - Real.arccos x]
                          else [Real.arcsin x - atan2R q p, Real.pi - Real.arcsin x - atan2R q p]), SameAngle r t := by
  split
  · rw [lin_cos_add_iff hr, exists_mem_pair_iff]
  · rw [lin_sin_add_iff hr, exists_mem_pair_iff]

/-! ## planar rotations -/

theorem planar_sq {a b u v x : ℝ} (h1 : a * Real.cos x + b * Real.sin x = u) (h2 : -a * Real.sin x + b * Real.cos x = v) :
    a ^ 2 + b ^ 2 = u ^ 2 + v ^ 2 := by
  rw [← h1, ← h2]; linear_combination (-(a ^ 2 + b ^ 2)) * Real.sin_sq_add_cos_sq x

/-- `atan2` of cross and dot product is the angle that turns `(a, b)` onto `(u, v)`; the arguments of the `atan2` are left as
    variables so that the code's own spelling of them can be put in -/
theorem planar_solve {a b u v X Y : ℝ} (hD : a ^ 2 + b ^ 2 = u ^ 2 + v ^ 2) (hX : X = u * b - v * a) (hY : Y = u * a + v * b) :
    a * Real.cos (atan2R X Y) + b * Real.sin (atan2R X Y) = u ∧
    -a * Real.sin (atan2R X Y) + b * Real.cos (atan2R X Y) = v := by
  -- `(Y, X)` lies on the circle of radius `a² + b²`
  obtain ⟨hc, hs⟩ := polar_of_sq (x := Y) (y := X) (r := a ^ 2 + b ^ 2) (by positivity)
    (by rw [hX, hY]; linear_combination (a ^ 2 + b ^ 2) * hD.symm)
  generalize atan2R X Y = t at hc hs ⊢
  subst hX hY
  by_cases hz : a ^ 2 + b ^ 2 = 0
  · obtain ⟨rfl, rfl⟩ := sq_add_sq_eq_zero.mp hz
    obtain ⟨rfl, rfl⟩ := sq_add_sq_eq_zero.mp (hD ▸ hz)
    simp
  · exact ⟨mul_left_cancel₀ hz (by linear_combination a * hc + b * hs), mul_left_cancel₀ hz (by linear_combination b * hc - a * hs)⟩

/-- the converse of `planar_solve`: its read-off recovers, modulo 2π, any angle that turns a non-null `(a, b)` onto `(u, v)` -/
theorem sameAngle_planar {a b u v X Y t : ℝ} (hne : a ^ 2 + b ^ 2 ≠ 0) (h1 : a * Real.cos t + b * Real.sin t = u)
    (h2 : -a * Real.sin t + b * Real.cos t = v) (hX : X = u * b - v * a) (hY : Y = u * a + v * b) : SameAngle (atan2R X Y) t :=
  let ⟨p1, p2⟩ := planar_solve (planar_sq h1 h2) hX hY
  sameAngle_of_rot a b u v _ t hne p1 p2 h1 h2

/-- the sum of the polar angles of `(a, b)` and of `(u, v)` (`__calc_sample_con_eta_phi` forms it) turns `(a, b)` onto `(u, −v)`:
    turning by its own polar angle lays `(a, b)` along the positive first axis, and turning on in the same sense by the polar angle
    of `(u, v)` leads to the mirror image of `(u, v)` in that axis -/
theorem planar_solve_add {a b u v : ℝ} (hD : a ^ 2 + b ^ 2 = u ^ 2 + v ^ 2) :
    a * Real.cos (atan2R v u + atan2R b a) + b * Real.sin (atan2R v u + atan2R b a) = u ∧
    -a * Real.sin (atan2R v u + atan2R b a) + b * Real.cos (atan2R v u + atan2R b a) = -v := by
  have hr : Scalar.hypot a b = Scalar.hypot u v := hypot_eq_of_sq (hypot_nonneg _ _) (by rw [sq_hypot, hD])
  rw [lin_cos, lin_sin, add_sub_cancel_right, hr, hypot_mul_cos_atan2, hypot_mul_sin_atan2]
  exact ⟨rfl, rfl⟩

/-! ## read-offs behind a sign factor -/

namespace C01

/-- `cos (asin (sin x)) = |cos x|`: the quantity the `asin` branches test before listing two roots -/
theorem cos_arcsin_sin (x : ℝ) : Real.cos (Real.arcsin (Real.sin x)) = |Real.cos x| := by
  rw [Real.cos_arcsin, ← Real.cos_sq', Real.sqrt_sq_eq_abs]

/-- `atan2` with both arguments multiplied by the sign of a quantity that is not small — the read-off `calc_*.py` uses wherever it
    divides by a cosine whose sign it does not know: if `(X, Y)` lies on the circle of radius `|c|`, the angle
    `atan2(sign c · Y, sign c · X)` is the one with `c·(cos, sin) = (X, Y)` -/
theorem atan2_sign_cs {c X Y : ℝ} (hc : Scalar.isSmall c = false) (h : X ^ 2 + Y ^ 2 = c ^ 2) :
    c * Real.cos (atan2R (Scalar.sign c * Y) (Scalar.sign c * X)) = X ∧
    c * Real.sin (atan2R (Scalar.sign c * Y) (Scalar.sign c * X)) = Y := by
  have hs := sign_mul_abs hc
  have h2 := (sign_facts c hc).2
  obtain ⟨hcos, hsin⟩ := polar_of_sq (x := Scalar.sign c * X) (y := Scalar.sign c * Y) (abs_nonneg c)
    (by rw [sq_abs]; linear_combination (X ^ 2 + Y ^ 2) * h2 + h)
  generalize atan2R (Scalar.sign c * Y) (Scalar.sign c * X) = t at hcos hsin ⊢
  exact ⟨by linear_combination (-Real.cos t) * hs + Scalar.sign c * hcos + X * h2,
    by linear_combination (-Real.sin t) * hs + Scalar.sign c * hsin + Y * h2⟩

/-- the same read-off, seen from a known angle -/
theorem sameAngle_atan2_sign {c a : ℝ} (hc : Scalar.isSmall c = false) :
    SameAngle (atan2R (Scalar.sign c * (c * Real.sin a)) (Scalar.sign c * (c * Real.cos a))) a := by
  obtain ⟨h1, h2⟩ := atan2_sign_cs (X := c * Real.cos a) (Y := c * Real.sin a) hc
    (by linear_combination (c ^ 2) * Real.sin_sq_add_cos_sq a)
  have hne := not_small_ne_zero hc
  exact ⟨mul_left_cancel₀ hne h2, mul_left_cancel₀ hne h1⟩
end C01

/-! ## a name the check of C03 refers to; it restates a fact proved above -/

theorem C03.sameAngle_sub_add (v ks a : ℝ) (h : SameAngle (v - ks) a) : SameAngle (a + ks) v :=
  sameAngle_symm (sameAngle_sub_iff.mp h)
end
