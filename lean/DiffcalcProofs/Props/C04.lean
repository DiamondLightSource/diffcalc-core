import Diffcalc.Gen.GetHkl
import DiffcalcProofs.Lemmas.AxisRot
/-!
# C04 — get_hkl is the exact You-(1999) forward model

Model: `Gen.get_hkl`, `Gen.get_q_phi` and the six rotation constructors, all GENERATED from the source on every run (tie T).
Specification: first-principles beam vectors with right-handed axis rotations (`M3.rotX/rotY/rotZ` = Rodrigues about
`e_x, e_y, e_z`): `k_i = (2π/λ) ŷ`, `k_f = Rx(ν) Rz(−δ) k_i`, `Z = Rx(μ) Rz(−η) Ry(χ) Rz(−φ)`.
-/
namespace C04
open M3
noncomputable section

/-- sample rotation of the specification -/
def Z (mu eta chi phi : ℝ) : M3 ℝ := M3.mul (M3.mul (M3.mul (rotX mu) (rotZ (-eta))) (rotY chi)) (rotZ (-phi))
def kI (wl : ℝ) : V3 ℝ := ⟨0, 2 * Real.pi / wl, 0⟩
def kF (delta nu wl : ℝ) : V3 ℝ := M3.mulVec (M3.mul (rotX nu) (rotZ (-delta))) (kI wl)
/-- scattering vector in the laboratory frame -/
def qLab (delta nu wl : ℝ) : V3 ℝ := V3.sub (kF delta nu wl) (kI wl)
/-- the forward model: `UB⁻¹ Z⁻¹ (k_f − k_i)` with `Z⁻¹ = Zᵀ` -/
def fwd (UB : M3 ℝ) (mu delta nu eta chi phi wl : ℝ) : V3 ℝ :=
  M3.mulVec (M3.inv UB) (M3.mulVec (M3.transpose (Z mu eta chi phi)) (qLab delta nu wl))

theorem isRot_Z (mu eta chi phi : ℝ) : IsRot (Z mu eta chi phi) :=
  IsRot.mul (IsRot.mul (IsRot.mul (isRot_rotX _) (isRot_rotZ _)) (isRot_rotY _)) (isRot_rotZ _)

/-- the forward model returns `hkl` exactly when the sample rotation takes `UB·hkl` to the laboratory scattering vector -/
theorem fwd_eq_iff (UB : M3 ℝ) (hdet : M3.det UB ≠ 0) (mu delta nu eta chi phi wl : ℝ) (hkl : V3 ℝ) :
    fwd UB mu delta nu eta chi phi wl = hkl ↔ M3.mulVec (Z mu eta chi phi) (M3.mulVec UB hkl) = qLab delta nu wl := by
  have hZ := isRot_Z mu eta chi phi
  unfold fwd
  constructor
  · rintro rfl
    rw [M3.mulVec_inv_cancel UB hdet, ← M3.mulVec_mul, hZ.mul_transpose, M3.mulVec_id]
  · intro h
    rw [← h, ← M3.mulVec_mul (M3.transpose _), hZ.1, M3.mulVec_id, M3.inv_mulVec_cancel UB hdet]

/-- the generated `PHI⁻¹·CHI⁻¹·ETA⁻¹·MU⁻¹` (each `numpy.linalg.inv`) is `Zᵀ` -/
theorem gen_Zinv (mu eta chi phi : ℝ) :
    M3.mul (M3.inv (Gen.rot_PHI phi)) (M3.mul (M3.inv (Gen.rot_CHI chi)) (M3.mul (M3.inv (Gen.rot_ETA eta)) (M3.inv (Gen.rot_MU mu))))
      = M3.transpose (Z mu eta chi phi) := by
  simp only [Gen.rot_MU, Gen.rot_ETA, Gen.rot_CHI, Gen.rot_PHI, gen_x_rotation, gen_y_rotation, gen_z_rotation, inv_rotX, inv_rotY, inv_rotZ,
    Z, M3.transpose_mul, M3.mul_assoc']

/-- the scattered beam: `Rx(ν) Rz(−δ) (0, c, 0) = c (sin δ, cos δ cos ν, cos δ sin ν)` -/
theorem kf_comps (delta nu c : ℝ) :
    M3.mulVec (M3.mul (rotX nu) (rotZ (-delta))) ⟨0, c, 0⟩ = V3.smul c ⟨Real.sin delta, Real.cos delta * Real.cos nu, Real.cos delta * Real.sin nu⟩ := by
  rw [M3.mulVec_mul, rotZ_neg_mulVec, rotX_mulVec, V3.smul]
  congr 1 <;> ring

/-- the scattering vector `k_f − k_i` of a beam `k_i = (0, c, 0)` -/
theorem q_comps (delta nu c : ℝ) :
    V3.sub (M3.mulVec (M3.mul (rotX nu) (rotZ (-delta))) ⟨0, c, 0⟩) ⟨0, c, 0⟩
      = V3.smul c ⟨Real.sin delta, Real.cos delta * Real.cos nu - 1, Real.cos delta * Real.sin nu⟩ := by
  simp only [kf_comps, V3.sub, V3.smul]
  congr 1 <;> ring

/-- the specification's `k_f − k_i`, and the generated `(NU·DELTA − 1)·(0, c, 0)`, in components -/
theorem qLab_comps (delta nu wl : ℝ) :
    qLab delta nu wl = V3.smul (2 * Real.pi / wl) ⟨Real.sin delta, Real.cos delta * Real.cos nu - 1, Real.cos delta * Real.sin nu⟩ :=
  q_comps delta nu _

theorem gen_qLab (delta nu c : ℝ) :
    M3.mulVec (M3.sub (M3.mul (Gen.rot_NU nu) (Gen.rot_DELTA delta)) M3.id) ⟨Scalar.ofNat 0, c, Scalar.ofNat 0⟩
      = V3.smul c ⟨Real.sin delta, Real.cos delta * Real.cos nu - 1, Real.cos delta * Real.sin nu⟩ := by
  rw [mulVec_sub_id, (gen_rot_senses nu).2.1, (gen_rot_senses delta).2.2.2.1, rs_ofNat, Nat.cast_zero, q_comps]

/-- **C04**: `get_hkl` equals the forward model, for every position, wavelength and UB -/
theorem getHkl_eq_fwd (UB : M3 ℝ) (mu delta nu eta chi phi wl : ℝ) :
    Gen.get_hkl UB mu delta nu eta chi phi wl = fwd UB mu delta nu eta chi phi wl := by
  simp only [Gen.get_hkl, fwd, M3.mul_assoc', gen_Zinv, gen_qLab, qLab_comps, M3.mulVec_mul]
  simp only [rs_ofNat, rs_pi, Nat.cast_ofNat]

/-- with an invertible UB: `UB · get_hkl = Zᵀ (k_f − k_i)` -/
theorem UB_getHkl (UB : M3 ℝ) (hdet : M3.det UB ≠ 0) (mu delta nu eta chi phi wl : ℝ) :
    M3.mulVec UB (Gen.get_hkl UB mu delta nu eta chi phi wl) =
      M3.mulVec (M3.transpose (Z mu eta chi phi)) (qLab delta nu wl) := by
  rw [getHkl_eq_fwd, fwd, M3.mulVec_inv_cancel UB hdet]

/-- the scattered beam direction is a unit vector, so `|k̂_f − k̂_i|² = 2 − 2 k̂_f·k̂_i` -/
theorem normSq_q (delta nu : ℝ) :
    V3.normSq ⟨Real.sin delta, Real.cos delta * Real.cos nu - 1, Real.cos delta * Real.sin nu⟩ = 2 - 2 * (Real.cos delta * Real.cos nu) := by
  simp only [V3.normSq, V3.dot]
  linear_combination Real.sin_sq_add_cos_sq delta + Real.cos delta ^ 2 * Real.sin_sq_add_cos_sq nu

/-- `|k̂_f − k̂_i| = 2 sin θ` where `cos 2θ = k̂_f·k̂_i`: the half-angle formula behind Bragg's law -/
theorem norm_q {delta nu theta : ℝ} (hth : Real.cos (2 * theta) = Real.cos delta * Real.cos nu) (hs : 0 ≤ Real.sin theta) :
    V3.norm ⟨Real.sin delta, Real.cos delta * Real.cos nu - 1, Real.cos delta * Real.sin nu⟩ = 2 * Real.sin theta := by
  rw [V3.norm, normSq_q, ← hth, rs_sqrt,
    show 2 - 2 * Real.cos (2 * theta) = (2 * Real.sin theta) ^ 2 by rw [Real.cos_two_mul, Real.cos_sq']; ring,
    Real.sqrt_sq (mul_nonneg zero_le_two hs)]

/-- **C04, length**: `|UB·hkl| = (4π/λ) sin θ` with `cos 2θ = cos δ cos ν`, `θ ∈ [0, π/2]` -/
theorem norm_UB_hkl (UB : M3 ℝ) (hdet : M3.det UB ≠ 0) (mu delta nu eta chi phi wl theta : ℝ) (hwl : 0 < wl)
    (hth : Real.cos (2 * theta) = Real.cos delta * Real.cos nu) (h0 : 0 ≤ theta) (h1 : theta ≤ Real.pi / 2) :
    V3.norm (M3.mulVec UB (Gen.get_hkl UB mu delta nu eta chi phi wl)) = 4 * Real.pi / wl * Real.sin theta := by
  rw [UB_getHkl UB hdet, (isRot_Z mu eta chi phi).transpose.norm, qLab_comps,
    V3.norm_smul_pos _ (div_pos (mul_pos two_pos Real.pi_pos) hwl),
    norm_q hth (Real.sin_nonneg_of_nonneg_of_le_pi h0 (h1.trans (half_le_self Real.pi_pos.le)))]
  ring

/-- **C04, wavelength scaling**: hkl scales as `1/λ` -/
theorem getHkl_scale_wl (UB : M3 ℝ) (mu delta nu eta chi phi wl c : ℝ) (hwl : wl ≠ 0) (hc : c ≠ 0) :
    Gen.get_hkl UB mu delta nu eta chi phi (c * wl) = V3.smul (1 / c) (Gen.get_hkl UB mu delta nu eta chi phi wl) := by
  simp only [getHkl_eq_fwd, fwd]
  have hq : qLab delta nu (c * wl) = V3.smul (1 / c) (qLab delta nu wl) := by
    rw [qLab_comps, qLab_comps, V3.smul_smul]; congr 1; field_simp
  rw [hq, M3.mulVec_smul, M3.mulVec_smul]

/-- **C04, periodicity**: adding 360° to any axis changes nothing -/
theorem getHkl_periodic (UB : M3 ℝ) (mu delta nu eta chi phi wl : ℝ) :
    Gen.get_hkl UB (mu + 2 * Real.pi) delta nu eta chi phi wl = Gen.get_hkl UB mu delta nu eta chi phi wl ∧
    Gen.get_hkl UB mu (delta + 2 * Real.pi) nu eta chi phi wl = Gen.get_hkl UB mu delta nu eta chi phi wl ∧
    Gen.get_hkl UB mu delta (nu + 2 * Real.pi) eta chi phi wl = Gen.get_hkl UB mu delta nu eta chi phi wl ∧
    Gen.get_hkl UB mu delta nu (eta + 2 * Real.pi) chi phi wl = Gen.get_hkl UB mu delta nu eta chi phi wl ∧
    Gen.get_hkl UB mu delta nu eta (chi + 2 * Real.pi) phi wl = Gen.get_hkl UB mu delta nu eta chi phi wl ∧
    Gen.get_hkl UB mu delta nu eta chi (phi + 2 * Real.pi) wl = Gen.get_hkl UB mu delta nu eta chi phi wl := by
  simp only [getHkl_eq_fwd, fwd, Z, qLab, kF, (rot_periodic _).1, (rot_periodic _).2.1, rotZ_neg_periodic, and_self]

/-- `get_q_phi` is the scattering vector of the unit-wavevector beam in the phi frame: `(λ/2π) · UB · get_hkl` -/
theorem getQPhi_eq (UB : M3 ℝ) (hdet : M3.det UB ≠ 0) (mu delta nu eta chi phi wl : ℝ) (hwl : wl ≠ 0) :
    Gen.get_q_phi mu delta nu eta chi phi = V3.smul (wl / (2 * Real.pi)) (M3.mulVec UB (Gen.get_hkl UB mu delta nu eta chi phi wl)) := by
  simp only [UB_getHkl UB hdet, Gen.get_q_phi, M3.mul_assoc', gen_Zinv, gen_qLab, qLab_comps, ← M3.mulVec_smul, V3.smul_smul]
  rw [div_mul_div_cancel₀ (mul_ne_zero two_ne_zero Real.pi_ne_zero), div_self hwl, rs_ofNat, Nat.cast_one]

/-- the model computes: at the zero position (direct beam) with `UB = 1`, `λ = 1` the scattering vector vanishes -/
example : (Gen.get_hkl (M3.id : M3 ℝ) 0 0 0 0 0 0 1) = ⟨0, 0, 0⟩ := by
  rw [getHkl_eq_fwd, fwd, qLab_comps]
  simp [M3.mulVec, V3.smul]

/-! ## names this property's check refers to; each restates a fact proved elsewhere -/

theorem isRot_transpose {r : M3 ℝ} (h : IsRot r) : IsRot (M3.transpose r) := h.transpose

theorem normSq_qLab (delta nu wl : ℝ) :
    V3.normSq (qLab delta nu wl) = (2 * Real.pi / wl) ^ 2 * (2 - 2 * (Real.cos delta * Real.cos nu)) := by
  rw [qLab_comps, V3.normSq_smul, normSq_q]
end
end C04
