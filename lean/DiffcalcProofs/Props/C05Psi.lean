import DiffcalcProofs.Props.Pipeline
import DiffcalcProofs.Props.C05
/-!
# C05 — psi against its geometric definition

psi is the azimuth of the reference direction `n̂` about the scattering vector `q̂`, measured from the scattering plane:
with `ŝ = (k̂_i × k̂_f)/|k̂_i × k̂_f|` (normal of the scattering plane) and `ê = ŝ × q̂`,  `psi = atan2(−n̂·ŝ, −n̂·ê)`.
The code evaluates eqs (25)/(28) of You (1999) from alpha, theta, tau, qaz, naz.  `calcPsi_geometric` shows the two agree exactly
whenever qaz and naz are defined and the code's own thresholds are not hit.
-/
namespace C05
open M3 Solver Scalar PyOps
noncomputable section

/-- a unit vector in the laboratory frame written with its incidence angle and azimuth -/
def nOf (alpha naz : ℝ) : V3 ℝ := ⟨Real.cos alpha * Real.sin naz, -(Real.sin alpha), Real.cos alpha * Real.cos naz⟩
/-- the normal of the scattering plane, `(k̂_i × k̂_f)/|k̂_i × k̂_f|` (see `sHat_geometric`) -/
def sHat (qaz : ℝ) : V3 ℝ := ⟨Real.cos qaz, 0, -(Real.sin qaz)⟩
/-- the third axis `ŝ × q̂` -/
def eHat (theta qaz : ℝ) : V3 ℝ := V3.cross (sHat qaz) (C01.qDir theta qaz)
/-- the scattered beam direction with Bragg angle θ and azimuth qaz -/
def kfOf (theta qaz : ℝ) : V3 ℝ := ⟨Real.sin (2 * theta) * Real.sin qaz, Real.cos (2 * theta), Real.sin (2 * theta) * Real.cos qaz⟩

/-- `k̂_i × k̂_f = sin 2θ · ŝ` and `k̂_f − k̂_i = 2 sin θ · q̂`: ŝ and q̂ are the geometric objects they are named after -/
theorem sHat_geometric (theta qaz : ℝ) :
    V3.cross ⟨0, 1, 0⟩ (kfOf theta qaz) = V3.smul (Real.sin (2 * theta)) (sHat qaz) ∧
    V3.sub (kfOf theta qaz) ⟨0, 1, 0⟩ = V3.smul (2 * Real.sin theta) (C01.qDir theta qaz) := by
  constructor
  · simp only [kfOf, sHat, V3.cross, V3.smul]
    congr 1 <;> ring
  · -- the double-angle formulas (with `cos² = 1 − sin²`), then component by component
    simp only [kfOf, C01.qDir, V3.sub, V3.smul, Real.sin_two_mul, Real.cos_two_mul, Real.cos_sq']
    congr 1 <;> ring

/-- the three identities behind eqs (25)/(28) -/
theorem psi_identities (theta qaz alpha naz : ℝ) :
    Real.cos alpha * Real.sin (qaz - naz) = -(V3.dot (nOf alpha naz) (sHat qaz)) ∧
    V3.dot (C01.qDir theta qaz) (nOf alpha naz) * Real.sin theta - Real.sin alpha
      = Real.cos theta * -(V3.dot (nOf alpha naz) (eHat theta qaz)) ∧
    V3.dot (nOf alpha naz) (sHat qaz) ^ 2 + V3.dot (nOf alpha naz) (eHat theta qaz) ^ 2
      = 1 - V3.dot (C01.qDir theta qaz) (nOf alpha naz) ^ 2 := by
  have hq := Real.sin_sq_add_cos_sq qaz
  refine ⟨?_, ?_, ?_⟩
  · simp only [V3.dot, nOf, sHat, Real.sin_sub]; ring
  · simp only [V3.dot, nOf, eHat, sHat, C01.qDir, V3.cross]
    linear_combination (Real.sin alpha * Real.cos theta ^ 2) * hq + Real.sin alpha * Real.sin_sq_add_cos_sq theta
  · -- Parseval for the unit vector `n̂` in the orthonormal frame `(ŝ, q̂, ê = ŝ × q̂)`
    have hs : V3.dot (sHat qaz) (sHat qaz) = 1 := by simp only [V3.dot, sHat]; linear_combination hq
    have hsq : V3.dot (sHat qaz) (C01.qDir theta qaz) = 0 := by simp only [V3.dot, sHat, C01.qDir]; ring
    -- (`nOf` and `C01.qDir` are the same parametrisation of the unit sphere, so `dot_qDir_self` is also `n̂·n̂ = 1`)
    have := V3.parseval hs (C01.dot_qDir_self theta qaz) hsq (nOf alpha naz)
    rw [show V3.dot (nOf alpha naz) (nOf alpha naz) = 1 from C01.dot_qDir_self alpha naz, V3.dot_comm (nOf alpha naz) (C01.qDir theta qaz)] at this
    rw [eHat]; linear_combination this

/-- **psi, eqs (25)/(28), equals the geometric azimuth**: with `tau` the angle between `q̂` and `n̂`, away from the code's thresholds -/
theorem calcPsi_geometric (alpha theta tau qaz naz : ℝ)
    (hct : Real.cos tau = V3.dot (C01.qDir theta qaz) (nOf alpha naz)) (hst : 0 ≤ Real.sin tau)
    (h1 : Scalar.isSmall (Real.sin tau) = false) (h2 : Scalar.isSmall (Real.cos theta) = false) (h3 : Scalar.isSmall (Real.sin theta) = false) :
    calcPsi alpha theta tau (some (qaz, some naz)) =
      [some (atan2R (-(V3.dot (nOf alpha naz) (sHat qaz))) (-(V3.dot (nOf alpha naz) (eHat theta qaz))))] := by
  obtain ⟨i1, i2, i3⟩ := psi_identities theta qaz alpha naz
  have hsne : Real.sin tau ≠ 0 := C01.not_small_ne_zero h1
  have hsign := C01.sign_eq_one h1 (lt_of_le_of_ne hst (Ne.symm hsne))
  -- the code's `cos_psi`, and its `eps = sin_psi² + cos_psi²`, which is `sin² tau`: so `sigma = 0` passes the test
  have hcp : (Real.cos tau * Real.sin theta - Real.sin alpha) / Real.cos theta = -(V3.dot (nOf alpha naz) (eHat theta qaz)) := by
    rw [hct, i2, mul_div_cancel_left₀ _ (C01.not_small_ne_zero h2)]
  have heps : (-(V3.dot (nOf alpha naz) (sHat qaz))) * (-(V3.dot (nOf alpha naz) (sHat qaz)))
      + (-(V3.dot (nOf alpha naz) (eHat theta qaz))) * (-(V3.dot (nOf alpha naz) (eHat theta qaz))) = Real.sin tau * Real.sin tau := by
    rw [← hct] at i3
    linear_combination i3 - Real.sin_sq_add_cos_sq tau
  unfold calcPsi
  simp only [rs_sin, rs_cos, rs_one, rs_atan2, h1, h2, h3, Bool.false_eq_true, if_false]
  rw [hcp, i1, heps, div_self (mul_self_ne_zero.mpr hsne), sub_self]
  simp only [C01.isSmall_zero, Bool.not_true, Bool.false_eq_true, if_false, hsign, one_mul]

/-- away from 2θ ∈ {0, 180°} the scattered beam is `(sin 2θ sin qaz, cos 2θ, sin 2θ cos qaz)` for the (θ, qaz) the code derives from (δ, ν) -/
theorem kfHat_eq_kfOf (delta nu : ℝ) (hns : Scalar.isSmall (Real.sin (2 * (thetaQaz delta nu).1)) = false) :
    C11.kfHat delta nu = kfOf (thetaQaz delta nu).1 (thetaQaz delta nu).2 ∧ 0 < Real.sin (2 * (thetaQaz delta nu).1) := by
  -- that is the detector relation of the position, the code's `(θ, qaz)` being `(thetaOf, qazOf)` where `sin 2θ` is positive
  obtain ⟨h1, h2, h3⟩ := C03.detSpec_position delta nu
  have hq : (thetaQaz delta nu).2 = C03.qazOf delta nu := by rw [qaz_geometric delta nu hns, C11.kfHat_comps]; rfl
  rw [hq, C11.kfHat_comps, kfOf, h1, h2]
  exact ⟨congrArg (V3.mk _ · _) h3, sin_two_theta_pos hns⟩

/-- a unit vector is `nOf (asin(−n.y)) (atan2(n.x, n.z))` -/
theorem unit_eq_nOf (n : V3 ℝ) (h : V3.norm n = 1) (hc : Real.cos (Real.arcsin (-n.y)) ≠ 0) :
    n = nOf (Real.arcsin (-n.y)) (atan2R n.x n.z) := by
  have hu := V3.sq_of_norm_one h
  have hy := (abs_neg n.y).le.trans (abs_le_one_of_unit hu)
  -- `(n.z, n.x)` lies on the circle of radius `cos (asin (−n.y))`
  have hsq : n.z ^ 2 + n.x ^ 2 = Real.cos (Real.arcsin (-n.y)) ^ 2 := by
    rw [Real.cos_sq', sin_arcsin_of_abs_le hy]; linear_combination hu
  rw [nOf, sin_arcsin_of_abs_le hy, neg_neg]
  exact eq_of_atan2 (Real.cos_arcsin_nonneg _) hsq

/-- **psi as returned by `get_virtual_angles` is the geometric azimuth** of the reference direction about the scattering vector,
    measured from the scattering plane: `atan2(−n̂·ŝ, −n̂·ê)` — whenever none of the code's thresholds is hit
    (2θ ∉ {0, 180°}, reference not along the beam axis, reference not along the scattering vector). -/
theorem psi_geometric (ub : UBIn ℝ) (p : Pos ℝ) (va : VAngles ℝ) (h : virtualAngles ub p = .ok va)
    (hnpos : 0 < V3.norm (M3.mulVec (M3.mul (M3.mul (M3.mul (Gen.rot_MU p.rad.mu) (Gen.rot_ETA p.rad.eta)) (Gen.rot_CHI p.rad.chi)) (Gen.rot_PHI p.rad.phi)) ub.n_phi))
    (h2t : Scalar.isSmall (Real.sin (2 * (thetaQaz p.rad.delta p.rad.nu).1)) = false)
    (hcth : Scalar.isSmall (Real.cos (thetaQaz p.rad.delta p.rad.nu).1) = false)
    (hsth : Scalar.isSmall (Real.sin (thetaQaz p.rad.delta p.rad.nu).1) = false)
    (hca : Scalar.isSmall (Real.cos (Real.arcsin (-(V3.normalised (M3.mulVec (M3.mul (M3.mul (M3.mul (Gen.rot_MU p.rad.mu) (Gen.rot_ETA p.rad.eta)) (Gen.rot_CHI p.rad.chi)) (Gen.rot_PHI p.rad.phi)) ub.n_phi)).y))) = false)
    (hstau : Scalar.isSmall (Real.sin (Real.arccos (V3.dot (C01.qDir (thetaQaz p.rad.delta p.rad.nu).1 (thetaQaz p.rad.delta p.rad.nu).2)
        (V3.normalised (M3.mulVec (M3.mul (M3.mul (M3.mul (Gen.rot_MU p.rad.mu) (Gen.rot_ETA p.rad.eta)) (Gen.rot_CHI p.rad.chi)) (Gen.rot_PHI p.rad.phi)) ub.n_phi))))) = false) :
    let n := V3.normalised (M3.mulVec (M3.mul (M3.mul (M3.mul (Gen.rot_MU p.rad.mu) (Gen.rot_ETA p.rad.eta)) (Gen.rot_CHI p.rad.chi)) (Gen.rot_PHI p.rad.phi)) ub.n_phi)
    va.psi = some (Scalar.toDeg (atan2R (-(V3.dot n (sHat (thetaQaz p.rad.delta p.rad.nu).2)))
      (-(V3.dot n (eHat (thetaQaz p.rad.delta p.rad.nu).1 (thetaQaz p.rad.delta p.rad.nu).2))))) := by
  intro n
  set theta := (thetaQaz p.rad.delta p.rad.nu).1
  set qaz := (thetaQaz p.rad.delta p.rad.nu).2
  have hfold : V3.normalised (M3.mulVec (M3.mul (M3.mul (M3.mul (Gen.rot_MU p.rad.mu) (Gen.rot_ETA p.rad.eta)) (Gen.rot_CHI p.rad.chi)) (Gen.rot_PHI p.rad.phi)) ub.n_phi) = n := rfl
  have hn1 : V3.norm n = 1 := by rw [← hfold, V3.normalised_eq_unit]; exact V3.norm_unit _ hnpos
  rw [hfold] at hca hstau
  -- alpha
  have ha : boundAsin (-n.y) = .ok (Real.arcsin (-n.y)) :=
    boundAsin_eq (by rw [abs_neg]; exact abs_le_one_of_unit (V3.sq_of_norm_one hn1))
  -- the scattering direction: `k̂_f − k̂_i = 2 sin θ · q̂`
  have hq : V3.normalised (M3.mulVec (M3.sub (M3.mul (Gen.rot_NU p.rad.nu) (Gen.rot_DELTA p.rad.delta)) M3.id) ⟨0, 1, 0⟩) = C01.qDir theta qaz := by
    have hsth_pos : 0 < Real.sin theta := lt_of_le_of_ne (sin_theta_nonneg _ _) (Ne.symm (C01.not_small_ne_zero hsth))
    change V3.normalised (C11.qRaw p.rad.delta p.rad.nu) = _
    rw [C11.qRaw_eq, (kfHat_eq_kfOf p.rad.delta p.rad.nu h2t).1, (sHat_geometric theta qaz).2, V3.normalised_eq_unit,
      V3.unit_smul (mul_pos two_pos hsth_pos), V3.unit_of_norm_one (C01.norm_qDir theta qaz)]
  -- tau is defined, both directions being unit vectors
  have htol : (Scalar.isSmallTol (V3.norm (C01.qDir theta qaz)) (Scalar.ofSci 1 true 12) || Scalar.isSmallTol (V3.norm n) (Scalar.ofSci 1 true 12)) = false := by
    rw [C01.norm_qDir, hn1]
    simp only [C01.isSmallTol_real, Scalar.ofSci, Bool.or_self, decide_eq_false_iff_not, not_le]
    norm_num
  have hdabs : |V3.dot (C01.qDir theta qaz) n| ≤ 1 :=
    V3.abs_dot_le_one (C01.dot_qDir_self theta qaz).le (V3.dot_self_of_norm_one hn1).le
  have ht := boundAcos_eq hdabs
  -- psi: `n̂ = nOf alpha naz`, and eqs (25)/(28) give the geometric azimuth
  have hnof := unit_eq_nOf n hn1 (C01.not_small_ne_zero hca)
  have hpsi := calcPsi_geometric (Real.arcsin (-n.y)) theta (Real.arccos (V3.dot (C01.qDir theta qaz) n)) qaz (atan2R n.x n.z)
    (by rw [cos_arccos_of_abs_le hdabs, ← hnof])
    (Real.sin_nonneg_of_nonneg_of_le_pi (Real.arccos_nonneg _) (Real.arccos_le_pi _)) hstau hcth hsth
  rw [← hnof] at hpsi
  unfold virtualAngles at h
  simp only [angleBetween_eq, rs_zero, rs_one, rs_cos, rs_atan2, bind, Except.bind, pure, Except.pure, hfold, hq, ha, htol, ht, hca,
    Bool.false_eq_true, if_false] at h
  -- beta may fail; if it does not, `va` is the record with this `psi`
  split at h
  · cases h
  · cases h
    exact congrArg (fun l => (l.headD none).map Scalar.toDeg) hpsi

end
end C05
