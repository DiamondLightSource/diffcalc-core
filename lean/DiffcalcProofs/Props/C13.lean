import DiffcalcProofs.Props.C04
import DiffcalcProofs.Props.C06
/-!
# C13 — solutions respect the physical symmetries of the diffraction problem

The solution set of a request is `{P | forward model(P) = hkl ∧ P honours the constraints}`.  Proved here (real reading), on the
GENERATED `get_hkl` / B matrix:
* (a) scaling all cell lengths and the wavelength by `s > 0`: `B` scales by `1/s` (`reciprocalB_scale`) and
  `get_hkl(U·B/s, P, s·λ) = get_hkl(U·B, P, λ)` (`getHkl_scale_cell`) — the same positions diffract at the same hkl;
* (b) `get_hkl(UB, P, λ/n) = n · get_hkl(UB, P, λ)` (`getHkl_order`);
* (c) adding 360° to an axis changes nothing (C04.getHkl_periodic) and the read-back filter is 360°-periodic in the
  constrained value (`anglesEquivalent_periodic`);
* (d) remounting the crystal rotated by ε about the phi axis (`U' = Rz(ε)·U`): `get_hkl(U'B, P with φ+ε) = get_hkl(UB, P)`
  (`getHkl_remount`) — every solution's phi shifts by ε and all other angles stay.
That the *solver* returns the whole solution set is C01 ∧ C03 (partial); the invariance of the returned lists themselves
is exercised by the metamorphic oracle.
-/
namespace C13
open M3
noncomputable section

/-- `get_hkl` is homogeneous of degree −1 in `UB` -/
theorem getHkl_smul_UB (UB : M3 ℝ) (hdet : M3.det UB ≠ 0) (c : ℝ) (hc : c ≠ 0) (mu delta nu eta chi phi wl : ℝ) :
    Gen.get_hkl (M3.smul c UB) mu delta nu eta chi phi wl = V3.smul (1 / c) (Gen.get_hkl UB mu delta nu eta chi phi wl) := by
  simp only [C04.getHkl_eq_fwd, C04.fwd]
  rw [M3.inv_smul c hc UB hdet, M3.smul_mulVec]

/-- (a) the same position, the lattice and the wavelength scaled by the same factor: same hkl -/
theorem getHkl_scale_cell (UB : M3 ℝ) (hdet : M3.det UB ≠ 0) (s : ℝ) (hs : 0 < s) (mu delta nu eta chi phi wl : ℝ) (hwl : wl ≠ 0) :
    Gen.get_hkl (M3.smul (1 / s) UB) mu delta nu eta chi phi (s * wl) = Gen.get_hkl UB mu delta nu eta chi phi wl := by
  rw [C04.getHkl_scale_wl _ _ _ _ _ _ _ wl s hwl hs.ne', getHkl_smul_UB UB hdet _ (one_div_ne_zero hs.ne'), V3.smul_smul, one_div_one_div,
    one_div_mul_cancel hs.ne', V3.one_smul]

/-- (a) the B matrix of a cell whose lengths are all multiplied by `s` is `B / s` -/
theorem reciprocalB_scale (k : C06.Cell) (s : ℝ) (hs : 0 < s) :
    Gen.reciprocalB (s * k.a1) (s * k.a2) (s * k.a3) k.al1 k.al2 k.al3 = M3.smul (1 / s) k.B :=
  (C06.reciprocalB_scale_axes _ _ _ _ _ _ s s s hs.ne' hs.ne' hs.ne').trans (M3.mul_scalar _ _)

/-- (b) n-th order: hkl scales by `n` when the wavelength is divided by `n` -/
theorem getHkl_order (UB : M3 ℝ) (mu delta nu eta chi phi wl n : ℝ) (hwl : wl ≠ 0) (hn : n ≠ 0) :
    Gen.get_hkl UB mu delta nu eta chi phi (wl / n) = V3.smul n (Gen.get_hkl UB mu delta nu eta chi phi wl) := by
  rw [show wl / n = 1 / n * wl by ring, C04.getHkl_scale_wl _ _ _ _ _ _ _ wl (1 / n) hwl (one_div_ne_zero hn), one_div_one_div]

/-- (c) the read-back filter compares angles modulo 360° -/
theorem anglesEquivalent_periodic (a b : ℝ) : PyOps.anglesEquivalent (a + 360) b = PyOps.anglesEquivalent a b := by
  simp only [PyOps.anglesEquivalent, PyOps.anglesEquivalentTol, C01.isSmallTol_real, Scalar.toRad, rs_sin, rs_pi, rs_ofNat, rs_two]
  have : (a + 360 - b) * Real.pi / (180 : ℕ) / 2 = (a - b) * Real.pi / (180 : ℕ) / 2 + Real.pi := by push_cast; ring
  rw [this, Real.sin_add_pi, abs_neg]

/-- (d) remounting: with `U' = Rz(ε)·U` the position with `phi + ε` diffracts at the same hkl -/
theorem getHkl_remount (UB : M3 ℝ) (hdet : M3.det UB ≠ 0) (eps mu delta nu eta chi phi wl : ℝ) :
    Gen.get_hkl (M3.mul (rotZ eps) UB) mu delta nu eta chi (phi + eps) wl = Gen.get_hkl UB mu delta nu eta chi phi wl := by
  have hdet' : M3.det (M3.mul (rotZ eps) UB) ≠ 0 := (isRot_rotZ eps).det_mul_ne_zero hdet
  simp only [C04.getHkl_eq_fwd]
  -- both sides solve `Z · UB · hkl = q`, because `Z(φ + ε) Rz(ε) = Z(φ)`
  rw [C04.fwd_eq_iff _ hdet', ← (C04.fwd_eq_iff UB hdet mu delta nu eta chi phi wl _).mp rfl, M3.mulVec_mul, ← M3.mulVec_mul _ (rotZ eps)]
  simp only [C04.Z, M3.mul_assoc', rotZ_add]
  rw [show -(phi + eps) + eps = -phi by ring]
end
end C13
