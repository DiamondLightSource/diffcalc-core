import DiffcalcProofs.Lemmas.SolveTrig
import DiffcalcProofs.Props.C02
/-!
# C02 — the bisect relations

`bisect` ties mu and eta to the scattering-plane azimuth: `tan μ = tan(θ+ω)·cos qaz`, `sin η = sin(θ+ω)·sin qaz`, with ω the constrained
value when omega is constrained and free otherwise.  For the three branches that implement it every returned tuple satisfies the relation
**exactly**, except on the stated shortcut (|asin| within 1e-8 of 90°, where η is set to ±90° outright).
-/
namespace C02
open M3 Solver Scalar PyOps
noncomputable section

/-- the eta half of the bisect relation, with the solver's shortcut at ±90° spelled out -/
def EtaRel (thomega qaz eta : ℝ) : Prop :=
  Real.sin eta = Real.sin thomega * Real.sin qaz ∨
  (Scalar.isSmall (|Real.arcsin (Real.sin thomega * Real.sin qaz)| - Real.pi / 2) = true ∧
    eta = Scalar.sign (Real.arcsin (Real.sin thomega * Real.sin qaz)) * Real.pi / 2)

/-- the bisect relation for one sample tuple at the value `thomega = θ + ω` -/
def BisectRel (thomega qaz : ℝ) (t : STuple ℝ) : Prop :=
  Real.tan t.1 = Real.tan thomega * Real.cos qaz ∧ EtaRel thomega qaz t.2.1

/-- the eta candidates of the bisect branches satisfy `EtaRel` -/
theorem etaVals_rel (thomega qaz e : ℝ)
    (he : e ∈ (if Scalar.isSmall (|Real.arcsin (Real.sin thomega * Real.sin qaz)| - Real.pi / 2)
      then [Scalar.sign (Real.arcsin (Real.sin thomega * Real.sin qaz)) * Real.pi / 2]
      else [Real.arcsin (Real.sin thomega * Real.sin qaz), Real.pi - Real.arcsin (Real.sin thomega * Real.sin qaz)])) :
    EtaRel thomega qaz e := by
  split at he
  · rename_i hs
    exact Or.inr ⟨hs, List.mem_singleton.mp he⟩
  · exact Or.inl (sin_of_mem_asin_pair (abs_mul_le_one (Real.abs_sin_le_one _) (Real.abs_sin_le_one _)) he).1

/-- **omega + bisect** (`__calc_sample_con_omega_bisect`): every returned tuple satisfies the bisect relation at the constrained omega -/
theorem omegaBisect_relation (omega qaz theta : ℝ) (N : M3 ℝ) :
    AllOk (BisectRel (theta + omega) qaz) (sampleConOmegaBisect omega qaz theta N) := by
  unfold sampleConOmegaBisect
  refine allOk_forM' _ _ fun me hme => ?_
  obtain ⟨m, hm, hme⟩ := List.mem_flatMap.mp hme
  obtain ⟨e, he, rfl⟩ := List.mem_map.mp hme
  exact allOk_mono (pt_sampleConMuEta m e qaz theta N) fun t ⟨h1, h2⟩ =>
    ⟨(h1 : t.1 = m) ▸ tan_of_mem_atan_pair hm, (h2 : t.2.1 = e) ▸ etaVals_rel (theta + omega) qaz e he⟩

/-- **mu + bisect** (`__calc_sample_con_mu_bisect`, omega free): every returned tuple carries the constrained mu and satisfies the bisect
    relation for some value of θ+ω (on the generic branch `cos qaz` not small; on the other branch θ+ω = θ and both sides of the tan relation are small) -/
theorem muBisect_relation (mu qaz theta : ℝ) (N : M3 ℝ) :
    AllOk (fun t => muIs mu t ∧ ∃ thomega, (Scalar.isSmall (Real.cos qaz) = false → Real.tan t.1 = Real.tan thomega * Real.cos qaz) ∧
        EtaRel thomega qaz t.2.1)
      (sampleConMuBisect mu qaz theta N) := by
  unfold sampleConMuBisect
  simp only [rs_tan, rs_cos, rs_sin, rs_atan, rs_asin, rs_pi, rs_two, rs_abs]
  split
  · exact allOk_nil
  · rename_i ths hths
    refine allOk_forM' _ _ fun e he => ?_
    obtain ⟨thomega, hth, he⟩ := List.mem_flatMap.mp he
    refine allOk_mono (pt_sampleConMuEta mu e qaz theta N) fun t ⟨h1, h2⟩ =>
      ⟨h1, thomega, fun hcq => ?_, (h2 : t.2.1 = e) ▸ etaVals_rel thomega qaz e he⟩
    rw [hcq, if_neg Bool.false_ne_true] at hths
    cases hths
    rw [show t.1 = mu from h1, tan_of_mem_atan_pair' hth, div_mul_cancel₀ _ (C01.not_small_ne_zero hcq)]

/-- **eta + bisect** (`__calc_sample_con_eta_bisect`, omega free): on the generic branch (`sin qaz` not small, `sin η / sin qaz` within [-1, 1],
    |asin| not within 1e-8 of 90°) every returned tuple carries the constrained eta and satisfies both bisect relations for some θ+ω -/
theorem etaBisect_relation (eta qaz theta : ℝ) (N : M3 ℝ) (hsq : Scalar.isSmall (Real.sin qaz) = false)
    (hclip : |Real.sin eta / Real.sin qaz| ≤ 1)
    (hgen : Scalar.isSmall (|Real.arcsin (Real.sin eta / Real.sin qaz)| - Real.pi / 2) = false) :
    AllOk (fun t => etaIs eta t ∧ ∃ thomega, Real.tan t.1 = Real.tan thomega * Real.cos qaz ∧ Real.sin t.2.1 = Real.sin thomega * Real.sin qaz)
      (sampleConEtaBisect eta qaz theta N) := by
  unfold sampleConEtaBisect
  simp only [rs_tan, rs_cos, rs_sin, rs_atan, rs_pi, rs_two, rs_abs]
  rw [hsq, if_neg Bool.false_ne_true, boundAsin_eq hclip, tryAssert_ok, hgen, if_neg Bool.false_ne_true]
  refine allOk_forM' _ _ fun m hm => ?_
  obtain ⟨thomega, hth, hm⟩ := List.mem_flatMap.mp hm
  -- both listed roots `a`, `π − a` have the sine `sin η / sin qaz`
  have hs := (sin_of_mem_asin_pair hclip hth).1
  exact allOk_mono (pt_sampleConMuEta m eta qaz theta N) fun t ⟨h1, h2⟩ =>
    ⟨h2, thomega, (h1 : t.1 = m) ▸ tan_of_mem_atan_pair' hm, by rw [show t.2.1 = eta from h2, hs, div_mul_cancel₀ _ (C01.not_small_ne_zero hsq)]⟩

end
end C02
