import DiffcalcProofs.Props.C01
import DiffcalcProofs.Props.C11
/-!
# C03 — any regular physical position is recovered from its own hkl and constraints (partial)

Full statement: for every implemented mode and every position `P` that is a regular point of the mode, the list returned for
`(hkl(P), constraints read off P)` contains `P` modulo 360°.

Proved here (all over the reals):
* `detFromQaz_complete`: the detector layer from qaz returns every `(delta, nu)` satisfying the detector relation;
* `filter_keeps_exact`, `hklMatches_exact`: a candidate that satisfies the constraints and maps to hkl exactly survives the
  read-back filter and the guard;
* `allOrNothing`: `get_position` returns the filtered list iff EVERY element of it passes the guard — so completeness of a
  mode needs soundness of every sibling candidate (which is how the `det + eta + phi` defect manifested).
The root enumerations every branch relies on (`asin_roots_complete`, `acos_roots_complete`: the pairs `x, π − x` and `±x` the code
enumerates are ALL solutions modulo 2π) are in `Lemmas/SolveTrig`; the branches of the sample layer are completed in `C03Sample`,
those of the detector layers from delta and nu in `C03Detector`, the reference branches in `C03Reference`, the modes in `C03Assembly*`
(where the hypothesis that remains, on the alpha the reference layer derives, is stated).
-/
namespace C03
open Solver PyOps
noncomputable section

/-- the sample rotation sees its four angles only through their sines and cosines -/
theorem Z_congr4 (mu mu' eta eta' chi chi' phi phi' : ℝ) (h1 : SameAngle mu mu') (h2 : SameAngle eta eta') (h3 : SameAngle chi chi')
    (h4 : SameAngle phi phi') : C04.Z mu eta chi phi = C04.Z mu' eta' chi' phi' := by
  unfold C04.Z M3.rotX M3.rotZ M3.rotY
  simp only [rs_cos, rs_sin, Real.cos_neg, Real.sin_neg, h1.1, h1.2, h2.1, h2.2, h3.1, h3.2, h4.1, h4.2]

/-- the detector relation sees qaz only through its sine and cosine -/
theorem detSpec_congr (delta nu qaz qaz' theta : ℝ) (h : SameAngle qaz qaz') (hD : C01.DetSpec delta nu qaz theta) :
    C01.DetSpec delta nu qaz' theta := by
  unfold C01.DetSpec at hD ⊢
  rw [← h.1, ← h.2]; exact hD

/-- **completeness of the detector layer**: any `(delta, nu)` satisfying the detector relation for the given `qaz`
    (with `cos delta` away from the code's threshold) is among the yielded tuples, modulo 2π -/
theorem detFromQaz_complete (delta nu qaz theta : ℝ) (hD : C01.DetSpec delta nu qaz theta)
    (hns : Scalar.isSmall (Real.cos delta) = false) :
    ∃ t ∈ detFromQaz qaz theta, SameAngle t.1 delta ∧ SameAngle t.2.1 nu ∧ t.2.2 = qaz := by
  obtain ⟨h1, h2, h3⟩ := hD
  have hx : Real.sin qaz * Real.sin (2 * theta) = Real.sin delta := by rw [h1, mul_comm]
  obtain ⟨d, hd, hs⟩ := exists_mem_pair (asin_roots_complete delta _ (Real.abs_sin_le_one delta) rfl)
  unfold detFromQaz
  simp only [rs_sin, rs_cos, rs_two, rs_asin, rs_atan2, rs_pi, rs_zero, hx, C01.cos_arcsin_sin, List.mem_map]
  rw [if_neg (by rw [C01.isSmall_of_abs_eq (abs_abs _), hns]; simp)]
  refine ⟨_, ⟨d, hd, rfl⟩, hs, ?_, rfl⟩
  -- the listed delta congruent to the given one carries a nu congruent to the given one
  simp only [hs.2, hns, Bool.false_eq_true, if_false, mul_assoc, ← h2, ← h3]
  exact C01.sameAngle_atan2_sign hns

/-! ## an exactly consistent candidate survives filter and guard -/

theorem anglesEquivalent_self (a : ℝ) : anglesEquivalent a a = true := by
  simp only [anglesEquivalent, anglesEquivalentTol, C01.isSmallTol_real, sub_self, Scalar.toRad, zero_mul, zero_div, rs_sin, Real.sin_zero,
    abs_zero, rs_SMALL, rs_pi, rs_ofNat, decide_eq_true_eq]
  positivity

theorem hklMatches_exact (hkl : V3 ℝ) : hklMatches hkl hkl = true := by
  simp only [hklMatches, sub_self, rs_abs, abs_zero, rs_le, Scalar.ofSci, Bool.and_self, decide_eq_true_eq]
  norm_num

/-- if the pseudo-angles of a position equal the constrained values exactly, the read-back filter keeps it -/
theorem filter_keeps_exact (va : VAngles ℝ) (ref : Option (RefCon ℝ)) (det : Option (DetCon ℝ)) (naz : Option ℝ)
    (href : match ref with
      | none => True
      | some .a_eq_b => va.beta = some va.alpha
      | some .bin_eq_bout => va.betain = va.betaout
      | some (.alpha v) => va.alpha = Scalar.toDeg v
      | some (.beta v) => va.beta = some (Scalar.toDeg v)
      | some (.psi v) => va.psi = some (Scalar.toDeg v)
      | some (.betain v) => va.betain = Scalar.toDeg v
      | some (.betaout v) => va.betaout = Scalar.toDeg v)
    (hdet : match det with | some (.qaz v) => va.qaz = Scalar.toDeg v | _ => True)
    (hnaz : match naz with | some v => va.naz = some (Scalar.toDeg v) | none => True) :
    passesFilter va ref det naz = true := by
  unfold passesFilter
  simp only [Bool.and_eq_true]
  refine ⟨⟨?_, ?_⟩, ?_⟩
  · rcases ref with _ | r
    · rfl
    · cases r <;> simp only [href, anglesEquivalent_self]
  · rcases det with _ | d
    · rfl
    · cases d <;> simp only [hdet, anglesEquivalent_self]
  · rcases naz with _ | v
    · rfl
    · simp only [hnaz, anglesEquivalent_self]

/-! ## all or nothing -/

/-- **all-or-nothing**: `get_position` returns exactly the filtered list of `__calc_hkl_to_position`, and it does so iff
    EVERY element of that list passes the hkl read-back guard; one failing sibling aborts the whole request -/
theorem allOrNothing (ub : UBIn ℝ) (mode : Mode ℝ) (hkl : V3 ℝ) (wl : ℝ) (l : List (Pos ℝ × VAngles ℝ)) :
    getPosition ub mode hkl wl = .ok l ↔
      (hklToPosition ub mode hkl wl = .ok l ∧ ∀ pv ∈ l, hklMatches (getHkl ub pv.1 wl) hkl = true) := by
  refine ⟨C02.getPosition_ok, ?_⟩
  rintro ⟨hp, hall⟩
  unfold getPosition
  rw [hp]
  -- neither loop over the list raises, so the list is returned as it is
  exact (bind_const_ok (mapM_total l fun ⟨p, va⟩ hx => ⟨(), if_pos (hall (p, va) hx)⟩)).trans
    (bind_const_ok (mapM_total l fun ⟨p, _⟩ _ => C11.virtualAngles_total ub p))
end
end C03
