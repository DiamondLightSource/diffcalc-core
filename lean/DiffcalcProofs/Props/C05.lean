import DiffcalcProofs.Props.C11
/-!
# C05 — pseudo-angles equal their geometric definitions and ignore vector length

Model: `Solver.virtualAngles` (hand, tie H: compared with `get_virtual_angles` on random and special positions with vectors of
any length in either frame) on top of the GENERATED rotation constructors.
Proved (real reading):
* **length independence**: the result is unchanged when the reference vector or the surface normal (phi frame) is multiplied
  by any positive factor (`virtualAngles_scale_ref`, `virtualAngles_scale_surf`);
* **geometric definitions** of the quantities the code derives by formula rather than by construction:
  `cos 2θ = k̂_f·k̂_i`, `sin β = n̂·k̂_f` (the code computes `2 sinθ cosτ − sin α`), `qaz = atan2(k̂_f·x̂, k̂_f·ẑ)` away from
  θ ∈ {0, 90°}; `betain/betaout` in C05Geo.lean, `psi` (eqs 25/28) in C05Psi.lean.  `alpha = asin(−n̂·k̂_i)` and `tau = acos(q̂·n̂)`
  are computed as written, so there is nothing to prove about them.
-/
namespace C05
open Solver PyOps
noncomputable section

theorem normalised_smul_pos (c : ℝ) (hc : 0 < c) (v : V3 ℝ) : V3.normalised (V3.smul c v) = V3.normalised v := by
  rw [V3.normalised_eq_unit, V3.normalised_eq_unit, V3.unit_smul hc]

theorem angleBetween_smul_right (c : ℝ) (hc : 0 < c) (x y : V3 ℝ) : angleBetween x (V3.smul c y) = angleBetween x y := by
  simp only [angleBetween, rs_one, V3.smul_inv_norm, V3.unit_smul hc]

/-- `get_virtual_angles` sees the reference vector only through its direction in the laboratory frame, and the surface normal only through
    the angles it makes there -/
theorem virtualAngles_congr {ub ub' : UBIn ℝ} (p : Pos ℝ)
    (hn : ∀ Z, V3.normalised (M3.mulVec Z ub'.n_phi) = V3.normalised (M3.mulVec Z ub.n_phi))
    (hs : ∀ Z x, angleBetween x (M3.mulVec Z ub'.surf_nphi) = angleBetween x (M3.mulVec Z ub.surf_nphi)) :
    virtualAngles ub' p = virtualAngles ub p := by
  unfold virtualAngles
  simp only [hn, hs]

/-- **length independence (reference vector)** -/
theorem virtualAngles_scale_ref (ub : UBIn ℝ) (c : ℝ) (hc : 0 < c) (p : Pos ℝ) :
    virtualAngles { ub with n_phi := V3.smul c ub.n_phi } p = virtualAngles ub p :=
  virtualAngles_congr p (fun Z => by rw [M3.mulVec_smul, normalised_smul_pos c hc]) fun _ _ => rfl

/-- **length independence (surface normal)** -/
theorem virtualAngles_scale_surf (ub : UBIn ℝ) (c : ℝ) (hc : 0 < c) (p : Pos ℝ) :
    virtualAngles { ub with surf_nphi := V3.smul c ub.surf_nphi } p = virtualAngles ub p :=
  virtualAngles_congr p (fun _ => rfl) fun Z x => by rw [M3.mulVec_smul, angleBetween_smul_right c hc]

/-! ## geometric definitions -/

/-! the detector layer's `θ`: `θ = acos(cos δ cos ν)/2 ∈ [0, π/2]`, so `cos 2θ = cos δ cos ν` and `sin 2θ ≥ 0` -/

theorem theta_eq (delta nu : ℝ) : (thetaQaz delta nu).1 = Real.arccos (Real.cos delta * Real.cos nu) / 2 := by
  simp only [thetaQaz, rs_acos, rs_cos, rs_two]

theorem two_theta (delta nu : ℝ) : 2 * (thetaQaz delta nu).1 = Real.arccos (Real.cos delta * Real.cos nu) := by
  rw [theta_eq]; ring

theorem cos_two_theta (delta nu : ℝ) : Real.cos (2 * (thetaQaz delta nu).1) = Real.cos delta * Real.cos nu := by
  rw [two_theta, cos_arccos_of_abs_le (abs_mul_le_one (Real.abs_cos_le_one _) (Real.abs_cos_le_one _))]

theorem sin_two_theta_pos {delta nu : ℝ} (hns : Scalar.isSmall (Real.sin (2 * (thetaQaz delta nu).1)) = false) :
    0 < Real.sin (2 * (thetaQaz delta nu).1) := by
  refine lt_of_le_of_ne ?_ (Ne.symm (C01.not_small_ne_zero hns))
  rw [two_theta]; exact Real.sin_nonneg_of_nonneg_of_le_pi (Real.arccos_nonneg _) (Real.arccos_le_pi _)

theorem sin_theta_nonneg (delta nu : ℝ) : 0 ≤ Real.sin (thetaQaz delta nu).1 :=
  theta_eq delta nu ▸ C11.sin_half_arccos_nonneg _

/-- `cos 2θ = k̂_f · k̂_i` with `k̂_i = ŷ` -/
theorem cos_ttheta_geometric (delta nu : ℝ) :
    Real.cos (2 * (thetaQaz delta nu).1) = V3.dot (C11.kfHat delta nu) ⟨0, 1, 0⟩ := by
  rw [cos_two_theta, C11.kfHat_comps]; simp [V3.dot]

/-- `sin β = n̂ · k̂_f`: the code's `2 sinθ cos τ − sin α` is the projection of the reference direction on the scattered beam -/
theorem sin_beta_geometric (delta nu : ℝ) (n : V3 ℝ) (hq : V3.norm (C11.qRaw delta nu) ≠ 0) :
    2 * Real.sin (Real.arccos (Real.cos delta * Real.cos nu) / 2) * V3.dot (V3.normalised (C11.qRaw delta nu)) n - (-n.y)
      = V3.dot (C11.kfHat delta nu) n := C11.beta_arg_eq delta nu n hq

/-- `qaz` is the azimuth of the scattered beam about the incident beam, `atan2(k̂_f·x̂, k̂_f·ẑ)`, whenever `sin 2θ` is above the
    code's threshold (away from θ ∈ {0, 90°}) -/
theorem qaz_geometric (delta nu : ℝ) (hns : Scalar.isSmall (Real.sin (2 * (thetaQaz delta nu).1)) = false) :
    (thetaQaz delta nu).2 = atan2R (C11.kfHat delta nu).x (C11.kfHat delta nu).z := by
  have hsign := C01.sign_eq_one hns (sin_two_theta_pos hns)
  simp only [thetaQaz, rs_atan2, rs_sin, rs_cos, rs_two, rs_acos] at hsign ⊢
  rw [hsign, C11.kfHat_comps, one_mul, one_mul]

/-- non-vacuity: scaling the reference vector by 2 is a scaling by a positive factor -/
example (ub : UBIn ℝ) (p : Pos ℝ) : virtualAngles { ub with n_phi := V3.smul 2 ub.n_phi } p = virtualAngles ub p :=
  virtualAngles_scale_ref ub 2 (by norm_num) p
end
end C05
