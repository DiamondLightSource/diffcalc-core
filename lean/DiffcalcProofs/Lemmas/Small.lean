import DiffcalcProofs.Lemmas.RealLinalg
import Mathlib.Analysis.SpecialFunctions.Trigonometric.Bounds
/-!
# `is_small` and the three-valued `sign` over ℝ

`diffcalc.util.is_small(x)` is `|x| ≤ 1e-7`; `util.sign` is `0` on small arguments and `±1` otherwise.  The solver tests a
quantity with `is_small` and then multiplies or divides by its sign; the lemmas here are what such code needs:
`sign c · |c| = c`, `|sign c| = 1`, and "two products of equal magnitude are equal iff the products of the signs of their factors
are" — the sign filters of `calc_detector.py`.  (Namespace `C01`, and `C03` for the last lemma: the checks list them under these names.)
-/
noncomputable section

namespace C01

theorem isSmall_real (x : ℝ) : Scalar.isSmall x = decide (|x| ≤ (1e-7 : ℝ)) := rfl

theorem isSmallTol_real (x tol : ℝ) : Scalar.isSmallTol x tol = decide (|x| ≤ tol) := rfl

theorem isSmall_iff {x : ℝ} : Scalar.isSmall x = true ↔ |x| ≤ 1e-7 := by rw [isSmall_real, decide_eq_true_eq]

theorem not_isSmall_iff {x : ℝ} : Scalar.isSmall x = false ↔ 1e-7 < |x| := by
  rw [isSmall_real, decide_eq_false_iff_not, not_le]

theorem isSmall_of_abs_eq {a b : ℝ} (h : |a| = |b|) : Scalar.isSmall a = Scalar.isSmall b := by
  rw [isSmall_real, isSmall_real, h]

theorem isSmall_zero : Scalar.isSmall (0 : ℝ) = true := isSmall_iff.mpr (by rw [abs_zero]; norm_num)

theorem isSmall_one : Scalar.isSmall (1 : ℝ) = false := not_isSmall_iff.mpr (by rw [abs_one]; norm_num)

theorem not_small_ne_zero {c : ℝ} (h : Scalar.isSmall c = false) : c ≠ 0 := by
  rintro rfl; rw [isSmall_zero] at h; cases h

theorem small_cos_not_small (x : ℝ) (hx : Scalar.isSmall x = true) : Scalar.isSmall (Real.cos x) = false := by
  rw [isSmall_iff] at hx; rw [not_isSmall_iff]
  have h1 : x ^ 2 ≤ 1 := (sq_le_one_iff_abs_le_one x).mpr (hx.trans (by norm_num))
  calc (1e-7 : ℝ) < 1 - 1 / 2 := by norm_num
    _ ≤ 1 - x ^ 2 / 2 := by linarith
    _ ≤ Real.cos x := Real.one_sub_sq_div_two_le_cos
    _ ≤ |Real.cos x| := le_abs_self _

/-! ## the sign: `0` if small, else `1` if positive, else `-1` -/

theorem sign_small (x : ℝ) (h : Scalar.isSmall x = true) : (Scalar.sign x : ℝ) = 0 := by
  rw [Scalar.sign, if_pos h, rs_zero]

theorem sign_eq_one {x : ℝ} (hns : Scalar.isSmall x = false) (hpos : 0 < x) : (Scalar.sign x : ℝ) = 1 := by
  simp [Scalar.sign, hns, hpos]

theorem sign_eq_neg_one {x : ℝ} (hns : Scalar.isSmall x = false) (hneg : x < 0) : (Scalar.sign x : ℝ) = -1 := by
  simp [Scalar.sign, hns, hneg.not_gt]

theorem sign_pos_of (x : ℝ) (h : (1e-7 : ℝ) < x) : (Scalar.sign x : ℝ) = 1 :=
  sign_eq_one (not_isSmall_iff.mpr (h.trans_le (le_abs_self x))) (lt_trans (by norm_num) h)

theorem sign_neg_of (x : ℝ) (h : x < -(1e-7 : ℝ)) : (Scalar.sign x : ℝ) = -1 :=
  sign_eq_neg_one (not_isSmall_iff.mpr (lt_abs.mpr (Or.inr (lt_neg.mp h)))) (h.trans (by norm_num))

theorem sign_one : (Scalar.sign (1 : ℝ) : ℝ) = 1 := sign_eq_one isSmall_one one_pos

theorem sign_facts (c : ℝ) (h : Scalar.isSmall c = false) : (Scalar.sign c : ℝ) * c = |c| ∧ (Scalar.sign c : ℝ) ^ 2 = 1 := by
  rcases lt_or_gt_of_ne (not_small_ne_zero h) with hc | hc
  · rw [sign_eq_neg_one h hc, abs_of_neg hc]; exact ⟨neg_one_mul c, neg_one_sq⟩
  · rw [sign_eq_one h hc, abs_of_pos hc]; exact ⟨one_mul c, one_pow 2⟩

theorem sign_mul_abs {c : ℝ} (h : Scalar.isSmall c = false) : (Scalar.sign c : ℝ) * |c| = c := by
  obtain ⟨h1, h2⟩ := sign_facts c h
  rw [← h1]; linear_combination c * h2

theorem abs_sign {c : ℝ} (h : Scalar.isSmall c = false) : |(Scalar.sign c : ℝ)| = 1 := by
  rw [← abs_one, ← sq_eq_sq_iff_abs_eq_abs, one_pow]; exact (sign_facts c h).2

/-- multiplying by the sign of a quantity that is not small does not change what `is_small` says -/
theorem isSmall_sign_mul {c : ℝ} (h : Scalar.isSmall c = false) (x : ℝ) : Scalar.isSmall (Scalar.sign c * x) = Scalar.isSmall x :=
  isSmall_of_abs_eq (by rw [abs_mul, abs_sign h, one_mul])

theorem isSmall_abs_mul (c x : ℝ) : Scalar.isSmall (|c| * x) = Scalar.isSmall (c * x) :=
  isSmall_of_abs_eq (by rw [abs_mul, abs_mul, abs_abs])

/-- the two roots of an `acos` have the same `|sin|`, the two roots of an `asin` the same `|cos|`: the smallness test the code makes on
    the principal value holds for both -/
theorem isSmall_sin_congr {a b : ℝ} (h : Real.cos a = Real.cos b) : Scalar.isSmall (Real.sin a) = Scalar.isSmall (Real.sin b) :=
  isSmall_of_abs_eq (by rw [Real.abs_sin_eq_sqrt_one_sub_cos_sq, Real.abs_sin_eq_sqrt_one_sub_cos_sq, h])

theorem isSmall_cos_congr {a b : ℝ} (h : Real.sin a = Real.sin b) : Scalar.isSmall (Real.cos a) = Scalar.isSmall (Real.cos b) :=
  isSmall_of_abs_eq (by rw [Real.abs_cos_eq_sqrt_one_sub_sin_sq, Real.abs_cos_eq_sqrt_one_sub_sin_sq, h])

theorem mul_eq_sign_mul_abs {a b : ℝ} (ha : Scalar.isSmall a = false) (hb : Scalar.isSmall b = false) :
    a * b = (Scalar.sign a * Scalar.sign b) * |a * b| := by
  rw [abs_mul]; nth_rewrite 1 [← sign_mul_abs ha, ← sign_mul_abs hb]; ring

/-- two products of equal magnitude are equal iff the products of the signs of their factors are: what the sign filters of
    `_calc_remaining_detector_angles_delta` / `_nu` test -/
theorem mul_eq_mul_iff_sign {a b c d : ℝ} (ha : Scalar.isSmall a = false) (hb : Scalar.isSmall b = false)
    (hc : Scalar.isSmall c = false) (hd : Scalar.isSmall d = false) (hsq : (a * b) ^ 2 = (c * d) ^ 2) :
    a * b = c * d ↔ (Scalar.sign a : ℝ) * Scalar.sign b = Scalar.sign c * Scalar.sign d := by
  have habs : |a * b| = |c * d| := (sq_eq_sq_iff_abs_eq_abs _ _).mp hsq
  have hne : |c * d| ≠ 0 := abs_ne_zero.mpr (mul_ne_zero (not_small_ne_zero hc) (not_small_ne_zero hd))
  rw [mul_eq_sign_mul_abs ha hb, mul_eq_sign_mul_abs hc hd, habs]
  exact ⟨fun h => mul_right_cancel₀ hne h, fun h => by rw [h]⟩

/-- the three-factor form of `mul_eq_mul_iff_sign` -/
theorem eq_mul_iff_sign {a c d : ℝ} (ha : Scalar.isSmall a = false) (hc : Scalar.isSmall c = false) (hd : Scalar.isSmall d = false)
    (hsq : a ^ 2 = (c * d) ^ 2) : a = c * d ↔ (Scalar.sign a : ℝ) = Scalar.sign c * Scalar.sign d := by
  have h := mul_eq_mul_iff_sign ha isSmall_one hc hd (by rwa [mul_one])
  rwa [mul_one, sign_one, mul_one] at h

/-- where the code replaces `asin x` by `sign(asin x)·π/2` (its cosine being small) the result has cosine exactly zero -/
theorem cos_sign_mul_pi_div_two {a : ℝ} (h : Scalar.isSmall (Real.cos a) = true) : Real.cos (Scalar.sign a * Real.pi / 2) = 0 := by
  have hna : Scalar.isSmall a = false :=
    Bool.eq_false_iff.mpr fun hs => Bool.false_ne_true ((small_cos_not_small a hs).symm.trans h)
  rcases sq_eq_sq_iff_eq_or_eq_neg.mp ((sign_facts a hna).2.trans (one_pow 2).symm) with h | h <;> rw [h]
  · rw [one_mul, Real.cos_pi_div_two]
  · rw [neg_one_mul, neg_div, Real.cos_neg, Real.cos_pi_div_two]

end C01

theorem C03.isSmall_neg (x : ℝ) : Scalar.isSmall (-x) = Scalar.isSmall x := C01.isSmall_of_abs_eq (abs_neg x)
end
