import DiffcalcProofs.Props.C02
import DiffcalcProofs.Props.C04
import DiffcalcProofs.Lemmas.SolveTrig
/-!
# C01 — every position returned for an hkl request diffracts at exactly that hkl

Model: `Diffcalc/Solver/*.lean` (hand, tie H) + the GENERATED `get_hkl` (tie T, C04).
* `getPosition_guard` (all modes): nothing is returned unless it maps back to the requested hkl through `get_hkl`
  within 1e-3 per index, and its dictionary is `get_virtual_angles` of that very position;
* `guard_forward_model`: `get_hkl` IS the first-principles forward model (C04), so the guard is a statement about physics;
* `composition`: the detector relation + the sample relation + Bragg's law give `forward model = hkl` *exactly*;
* `detFromQaz_sound`: the detector layer used by the three-sample and the reference + two-sample branches establishes
  the detector relation exactly, wherever `cos delta` is not within the code's 1e-7 threshold (there the code sets `nu := 0` on purpose).
-/
namespace C01
open Solver PyOps M3
noncomputable section

/-- **C01, all modes**: whatever the candidate generators produce, `get_position` returns a pair only if the position maps
    back to the requested hkl (the read-back guard) and the dictionary paired with it is the one of that position -/
theorem getPosition_guard (ub : UBIn ℝ) (mode : Mode ℝ) (hkl : V3 ℝ) (wl : ℝ) (l : List (Pos ℝ × VAngles ℝ))
    (h : getPosition ub mode hkl wl = .ok l) :
    ∀ pv ∈ l, hklMatches (getHkl ub pv.1 wl) hkl = true ∧ virtualAngles ub pv.1 = .ok pv.2 :=
  fun pv hpv => ⟨(C02.getPosition_ok h).2 pv hpv, (C02.filter_sound ub mode hkl wl l (C02.getPosition_ok h).1 pv hpv).2.1⟩

theorem getPosition_pairs_virtualAngles (ub : UBIn ℝ) (mode : Mode ℝ) (hkl : V3 ℝ) (wl : ℝ) (l : List (Pos ℝ × VAngles ℝ))
    (h : getPosition ub mode hkl wl = .ok l) : ∀ pv ∈ l, virtualAngles ub pv.1 = .ok pv.2 :=
  fun pv hpv => (getPosition_guard ub mode hkl wl l h pv hpv).2

/-- the guard is about the physical forward model: `get_hkl` is `UB⁻¹ Zᵀ (k_f − k_i)` (C04), so a returned position
    diffracts within 1e-3 (per index) of the requested hkl -/
theorem guard_forward_model (ub : UBIn ℝ) (p : Pos ℝ) (hkl : V3 ℝ) (wl : ℝ) (h : hklMatches (getHkl ub p wl) hkl = true) :
    let f := C04.fwd ub.UB p.rad.mu p.rad.delta p.rad.nu p.rad.eta p.rad.chi p.rad.phi wl
    |f.x - hkl.x| ≤ 1e-3 ∧ |f.y - hkl.y| ≤ 1e-3 ∧ |f.z - hkl.z| ≤ 1e-3 := by
  simpa only [getHkl, C04.getHkl_eq_fwd, hklMatches, rs_le, rs_abs, Scalar.ofSci, Bool.and_eq_true, decide_eq_true_eq, and_assoc] using h

/-! ## exactness: the relations of You (1999) -/

/-- detector relation (direction of the scattered beam), eqs (17)–(19) -/
def DetSpec (delta nu qaz theta : ℝ) : Prop :=
  Real.sin delta = Real.sin (2 * theta) * Real.sin qaz ∧
  Real.cos delta * Real.sin nu = Real.sin (2 * theta) * Real.cos qaz ∧
  Real.cos delta * Real.cos nu = Real.cos (2 * theta)

/-- direction of the scattering vector in the laboratory frame, eq (18) -/
def qDir (theta qaz : ℝ) : V3 ℝ := ⟨Real.cos theta * Real.sin qaz, -(Real.sin theta), Real.cos theta * Real.cos qaz⟩

theorem dot_qDir_self (theta qaz : ℝ) : V3.dot (qDir theta qaz) (qDir theta qaz) = 1 := by
  simp only [V3.dot, qDir]
  linear_combination Real.cos theta ^ 2 * Real.sin_sq_add_cos_sq qaz + Real.sin_sq_add_cos_sq theta

theorem norm_qDir (theta qaz : ℝ) : V3.norm (qDir theta qaz) = 1 := V3.norm_of_dot_self_one (dot_qDir_self theta qaz)

theorem qDir_congr (theta q q' : ℝ) (h : C03.SameAngle q q') : qDir theta q = qDir theta q' := by
  simp only [qDir, h.1, h.2]

theorem qDir_inj (theta q q' : ℝ) (hc : Real.cos theta ≠ 0) (h : qDir theta q = qDir theta q') : C03.SameAngle q q' := by
  have hx := congrArg V3.x h; have hz := congrArg V3.z h
  simp only [qDir] at hx hz
  exact ⟨mul_left_cancel₀ hc hx, mul_left_cancel₀ hc hz⟩

/-- the laboratory-frame reference direction used by `_calc_remaining_sample_angles` -/
def nLab (alpha : ℝ) (nazv : Option ℝ) : V3 ℝ :=
  match nazv with
  | none => ⟨0, -(Real.sin alpha), 0⟩
  | some nz => ⟨Real.cos alpha * Real.sin nz, -(Real.sin alpha), Real.cos alpha * Real.cos nz⟩

/-- with an azimuth, the reference direction is the spherical parametrisation of the scattering direction, at `alpha` for `theta` -/
theorem nLab_some (alpha z : ℝ) : nLab alpha (some z) = qDir alpha z := rfl

/-- under the detector relation the scattering vector is `(4π/λ) sin θ` along `qDir` -/
theorem qLab_of_DetSpec (delta nu qaz theta wl : ℝ) (h : DetSpec delta nu qaz theta) :
    C04.qLab delta nu wl = V3.smul (2 * (2 * Real.pi / wl) * Real.sin theta) (qDir theta qaz) := by
  obtain ⟨h1, h2, h3⟩ := h
  rw [C04.qLab_comps, h1, h2, h3, Real.sin_two_mul, Real.cos_two_mul, Real.cos_sq']
  ext <;> simp only [V3.smul, qDir] <;> ring

/-- **composition**: detector relation + sample relation (eq 18: `Z·(UB·hkl)` points along `qDir` with the Bragg length)
    ⇒ the forward model returns the requested hkl exactly -/
theorem composition (UB : M3 ℝ) (hdet : M3.det UB ≠ 0) (mu delta nu eta chi phi qaz theta wl : ℝ) (hkl : V3 ℝ)
    (hD : DetSpec delta nu qaz theta)
    (hS : M3.mulVec (C04.Z mu eta chi phi) (M3.mulVec UB hkl) = V3.smul (2 * (2 * Real.pi / wl) * Real.sin theta) (qDir theta qaz)) :
    C04.fwd UB mu delta nu eta chi phi wl = hkl :=
  (C04.fwd_eq_iff UB hdet mu delta nu eta chi phi wl hkl).mpr (by rw [hS, qLab_of_DetSpec delta nu qaz theta wl hD])

/-! ## the detector relation: two spherical readings of one unit vector

`(sin δ, cos δ sin ν, cos δ cos ν) = (sin 2θ sin q, sin 2θ cos q, cos 2θ)`, so any two of the three equations give the third in squares. -/

theorem det_unit (delta nu : ℝ) :
    Real.sin delta ^ 2 + (Real.cos delta * Real.sin nu) ^ 2 + (Real.cos delta * Real.cos nu) ^ 2 = 1 := by
  linear_combination Real.sin_sq_add_cos_sq delta + (Real.cos delta ^ 2) * Real.sin_sq_add_cos_sq nu

theorem qaz_unit (theta qaz : ℝ) :
    (Real.sin (2 * theta) * Real.sin qaz) ^ 2 + (Real.sin (2 * theta) * Real.cos qaz) ^ 2 + Real.cos (2 * theta) ^ 2 = 1 := by
  linear_combination Real.sin_sq_add_cos_sq (2 * theta) + (Real.sin (2 * theta) ^ 2) * Real.sin_sq_add_cos_sq qaz

/-- qaz given: once `sin δ` is right, the `atan2` for nu (behind the sign of `cos δ`) completes the relation -/
theorem detSpec_of_sin_delta {delta qaz theta : ℝ} (hc : Scalar.isSmall (Real.cos delta) = false)
    (h1 : Real.sin delta = Real.sin (2 * theta) * Real.sin qaz) :
    DetSpec delta (atan2R (Scalar.sign (Real.cos delta) * Real.sin (2 * theta) * Real.cos qaz)
      (Scalar.sign (Real.cos delta) * Real.cos (2 * theta))) qaz theta := by
  have hu := qaz_unit theta qaz
  rw [← h1] at hu
  rw [mul_assoc]
  obtain ⟨h3, h2⟩ := atan2_sign_cs (X := Real.cos (2 * theta)) (Y := Real.sin (2 * theta) * Real.cos qaz) hc
    (by linear_combination hu - Real.sin_sq_add_cos_sq delta)
  exact ⟨h1, h2, h3⟩

/-! ## the detector layer from qaz is exact -/

theorem sin_asin_prod (qaz theta : ℝ) :
    Real.sin (Real.arcsin (Real.sin qaz * Real.sin (2 * theta))) = Real.sin qaz * Real.sin (2 * theta) :=
  sin_arcsin_of_abs_le (abs_mul_le_one (Real.abs_sin_le_one _) (Real.abs_sin_le_one _))

/-- **detector layer, exact**: every `(delta, nu, qaz)` produced from a value of qaz satisfies the detector relation,
    provided `cos delta` is not within the code's own 1e-7 threshold of zero (there the code sets `nu := 0` on purpose) -/
theorem detFromQaz_sound (qaz theta : ℝ) :
    ∀ t ∈ detFromQaz qaz theta, Scalar.isSmall (Real.cos t.1) = false → DetSpec t.1 t.2.1 t.2.2 theta := by
  intro t ht hns
  obtain ⟨delta, hd, rfl⟩ := List.mem_map.mp ht
  simp only [rs_sin, rs_cos, rs_two, rs_asin, rs_atan2, rs_pi] at hd hns ⊢
  rw [if_neg (by simp [hns])]
  refine detSpec_of_sin_delta hns ?_
  split at hd
  · rename_i hsm
    rw [List.mem_singleton.mp hd, cos_sign_mul_pi_div_two (by simpa using hsm), isSmall_zero] at hns
    cases hns
  · rw [C03.sin_eq_sin_iff.mpr (sameAngle_of_mem_pair hd), sin_asin_prod, mul_comm]

theorem detFromQaz_qaz (qaz theta : ℝ) : ∀ t ∈ detFromQaz qaz theta, t.2.2 = qaz := by
  intro t ht
  obtain ⟨d, _, rfl⟩ := List.mem_map.mp ht
  rfl

/-- the third entry of such a triple is the qaz it was made from, so the relation holds at that qaz -/
theorem detSpec_of_mem_detFromQaz {qaz theta : ℝ} {t : ℝ × ℝ × ℝ} (ht : t ∈ detFromQaz qaz theta)
    (hns : Scalar.isSmall (Real.cos t.1) = false) : DetSpec t.1 t.2.1 qaz theta :=
  detFromQaz_qaz qaz theta t ht ▸ detFromQaz_sound qaz theta t ht hns

/-- the tuple with the free axis set to `v` -/
def assign (free : Free) (mu eta chi phi v : ℝ) : STuple ℝ :=
  match free with
  | .mu => (v, eta, chi, phi) | .eta => (mu, v, chi, phi) | .chi => (mu, eta, v, phi) | .phi => (mu, eta, chi, v)

/-- `_calc_three_sample` with its four cases folded into `assign`: one candidate per value of the free axis and detector triple -/
theorem threeSample_eq (free : Free) (mu eta chi phi : ℝ) (h : V3 ℝ) (theta : ℝ) :
    threeSample free mu eta chi phi h theta = tryAssert (lastSampleAngle free mu eta chi phi h theta) fun vals =>
      .ok <| vals.flatMap fun v =>
        let t := assign free mu eta chi phi v
        (detFromQaz (qazValue t.1 t.2.1 t.2.2.1 t.2.2.2 h theta) theta).map fun d => (t.1, d.1, d.2.1, t.2.1, t.2.2.1, t.2.2.2) := by
  cases free <;> rfl

/-- the detector angles of every three-sample candidate come from `detFromQaz` at the qaz computed for that candidate -/
theorem threeSample_detector_sound (free : Free) (mu eta chi phi : ℝ) (h : V3 ℝ) (theta : ℝ) (l : List (Sol ℝ))
    (hl : threeSample free mu eta chi phi h theta = .ok l) :
    ∀ s ∈ l, Scalar.isSmall (Real.cos s.2.1) = false →
      DetSpec s.2.1 s.2.2.1 (qazValue s.1 s.2.2.2.1 s.2.2.2.2.1 s.2.2.2.2.2 h theta) theta := by
  rw [threeSample_eq] at hl
  refine allOk_tryAssert (fun vals _ => allOk_ok fun s hs hns => ?_) l hl
  obtain ⟨v, _, hv⟩ := List.mem_flatMap.mp hs
  obtain ⟨d, hd, rfl⟩ := List.mem_map.mp hv
  exact detSpec_of_mem_detFromQaz hd hns

/-- likewise for the reference + two-sample branches: the detector angles of every candidate come from `detFromQaz` at some qaz -/
theorem twoSampleAndReference_detector_sound (s : Samp2Ref ℝ) (h n : V3 ℝ) (theta psi : ℝ) (l : List (Sol ℝ))
    (hl : twoSampleAndReference s h n theta psi = .ok l) :
    ∀ sol ∈ l, Scalar.isSmall (Real.cos sol.2.1) = false → ∃ qaz, DetSpec sol.2.1 sol.2.2.1 qaz theta := by
  refine allOk_bind (fun N _ => allOk_bind fun rs _ => allOk_ok fun sol hs hns => ?_) l hl
  obtain ⟨⟨qaz, ps, mu, eta, chi, phi⟩, _, hv⟩ := List.mem_flatMap.mp hs
  obtain ⟨d, hd, rfl⟩ := List.mem_map.mp hv
  exact ⟨qaz, detSpec_of_mem_detFromQaz hd hns⟩

/-- non-vacuity of the detector relation: delta = 2θ, nu = 0, qaz = 90° (vertical scattering) -/
example (theta : ℝ) : DetSpec (2 * theta) 0 (Real.pi / 2) theta := by
  simp [DetSpec, Real.sin_pi_div_two, Real.cos_pi_div_two]

/-- the recorded finding `C01-bound-clip-at-turning-point`, on the model: inside the band `(1, 1 + 1e-7]` the guard in front of every
`asin` / `acos` does not refuse, it answers with the turning point `1` — so the `acos` that follows returns `0` for an `x` no angle has as
its cosine, and a request that misses a solution by that little is answered (inexactly, below the 1e-3 of the read-back) instead of refused -/
theorem bound_clips_in_band (x : ℝ) (h1 : 1 < x) (h2 : x ≤ 1 + 1e-7) : PyOps.bound x = .ok 1 := by
  rw [bound_real, if_neg (not_lt.mpr (by rwa [abs_of_pos (one_pos.trans h1)])), min_eq_right h1.le, max_eq_right (neg_le_self zero_le_one)]
end
end C01
