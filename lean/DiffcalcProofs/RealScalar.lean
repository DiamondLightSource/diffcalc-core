import Diffcalc.Scalar
import Mathlib.Analysis.SpecialFunctions.Trigonometric.Inverse
import Mathlib.Analysis.SpecialFunctions.Trigonometric.Arctan
import Mathlib.Analysis.SpecialFunctions.Complex.Arg
import Mathlib.Analysis.SpecialFunctions.Sqrt
import Mathlib.Analysis.SpecialFunctions.Pow.Real
import Mathlib.Tactic.Ring
import Mathlib.Tactic.FieldSimp
import Mathlib.Tactic.Linarith
import Mathlib.Tactic.NormNum
import Mathlib.Tactic.Positivity
/-!
# The real-number reading of `Scalar`

`atan2 y x := Complex.arg (x + y i)`; comparisons through classical decidability.
Every theorem about numeric model definitions is stated at this instance.
-/
noncomputable section
open Classical

def atan2R (y x : ℝ) : ℝ := Complex.arg ⟨x, y⟩

/-- real cube root (odd extension of `x ^ (1/3)`) -/
def cbrtR (x : ℝ) : ℝ := if 0 ≤ x then x ^ ((1:ℝ) / 3) else -((-x) ^ ((1:ℝ) / 3))

theorem cbrtR_one : cbrtR 1 = 1 := by simp [cbrtR]

instance : Scalar ℝ where
  ofNat n := (n : ℝ)
  ofSci m s e := OfScientific.ofScientific m s e
  pi := Real.pi
  sqrt := Real.sqrt
  cbrt := cbrtR
  sin := Real.sin
  cos := Real.cos
  tan := Real.tan
  asin := Real.arcsin
  acos := Real.arccos
  atan := Real.arctan
  atan2 := atan2R
  abs := fun x => |x|
  lt a b := decide (a < b)
  le a b := decide (a ≤ b)
  beq a b := decide (a = b)

theorem cos_atan2R {x y : ℝ} (h : x ≠ 0 ∨ y ≠ 0) :
    Real.cos (atan2R y x) = x / Real.sqrt (x^2 + y^2) := by
  have hz : (⟨x, y⟩ : ℂ) ≠ 0 := fun h0 => h.elim (· (congrArg Complex.re h0)) (· (congrArg Complex.im h0))
  rw [atan2R, Complex.cos_arg hz, Complex.norm_def, Complex.normSq_apply, pow_two, pow_two]

theorem sin_atan2R (x y : ℝ) :
    Real.sin (atan2R y x) = y / Real.sqrt (x^2 + y^2) := by
  rw [atan2R, Complex.sin_arg, Complex.norm_def, Complex.normSq_apply, pow_two, pow_two]

/-! `|x| ≤ 1` is how the range of `asin` / `acos` is stated throughout: it is what `bound` delivers -/

theorem sin_arcsin_of_abs_le {x : ℝ} (h : |x| ≤ 1) : Real.sin (Real.arcsin x) = x :=
  Real.sin_arcsin (abs_le.mp h).1 (abs_le.mp h).2

theorem cos_arccos_of_abs_le {x : ℝ} (h : |x| ≤ 1) : Real.cos (Real.arccos x) = x :=
  Real.cos_arccos (abs_le.mp h).1 (abs_le.mp h).2

theorem abs_mul_le_one {x y : ℝ} (hx : |x| ≤ 1) (hy : |y| ≤ 1) : |x * y| ≤ 1 := by
  rw [abs_mul]; exact mul_le_one₀ hx (abs_nonneg y) hy

/-- a component of a unit vector (the caller names the other two `x`, `z`) is in the range of `asin` / `acos` -/
theorem abs_le_one_of_unit {x y z : ℝ} (h : x ^ 2 + y ^ 2 + z ^ 2 = 1) : |y| ≤ 1 :=
  (sq_le_one_iff_abs_le_one y).mp (by linarith [sq_nonneg x, sq_nonneg z])

@[simp] theorem scalar_toDeg_toRad (x : ℝ) : Scalar.toDeg (Scalar.toRad x) = x := by
  simp only [Scalar.toDeg, Scalar.toRad, Scalar.pi, Scalar.ofNat]
  field_simp

@[simp] theorem scalar_toRad_toDeg (x : ℝ) : Scalar.toRad (Scalar.toDeg x) = x := by
  simp only [Scalar.toDeg, Scalar.toRad, Scalar.pi, Scalar.ofNat]
  field_simp
end
