import DiffcalcProofs.Props.C01Reference
import DiffcalcProofs.Props.C03
/-!
# C03 — completeness of the reference + two-sample branches (`calc_reference.py`)

Every `(qaz, mu, eta, chi, phi)` that satisfies the orientation equation of the reference modes, `Z · N_phi · PSIᵀ · THETAᵀ = F(qaz)`,
and carries the two given sample angles is returned by the branch for those two, modulo 2π in the three computed angles.  In each
arrangement of the equation (`C01Reference`) the solution gives the entries of the known matrix that the code reads; the first free
angle is then one of a complete pair of roots, and an `atan2` read-off returns the angle of the solution because that angle turns the same
pair onto the same pair (`sameAngle_planar`, the converse of what the sound side uses) or, where the code tests the arguments, because they
are a positive factor (`|cos mu|`, or the squared length the crossing entry leaves over) times its sine and cosine.  A sibling root meets the
same "cannot be chosen uniquely" tests with the same magnitudes (chi + phi), or is assumed not to raise (mu + phi, eta + phi).
-/
namespace C03
open M3 Solver Scalar PyOps C01
noncomputable section

/-- the code's `V` in terms of the angles of a solution: `V = (MU·ETA)ᵀ · F(qaz)` -/
theorem refV_entries (mu eta chi phi qaz : ℝ) (Vr : M3 ℝ)
    (h : M3.mul (C04.Z mu eta chi phi) Vr = Fq qaz) :
    let V := M3.mul (M3.mul (rotY chi) (rotZ (-phi))) Vr
    V.a21 = -Real.sin mu ∧ V.a20 = Real.cos mu * Real.cos qaz ∧ V.a22 = Real.cos mu * Real.sin qaz ∧
    V.a01 = -(Real.cos mu * Real.sin eta) ∧ V.a11 = Real.cos mu * Real.cos eta := by
  intro V
  rw [show V = emf mu eta qaz from (refSpec_iff_emf (psi := 0)).mp h]
  exact emf_entries mu eta qaz

/-- **completeness of `__calc_sample_ref_con_chi_phi`** -/
theorem refConChiPhi_complete (chi phi psi theta : ℝ) (N : M3 ℝ)
    (qaz0 mu0 eta0 : ℝ) (hS : RefSpec (Vref psi theta N) (qaz0, psi, mu0, eta0, chi, phi))
    (hgen : Scalar.isSmall (Real.cos (Real.arcsin (Real.sin mu0))) = false)
    (hne : (Scalar.isSmall (|Real.cos mu0| * Real.sin eta0) && Scalar.isSmall (|Real.cos mu0| * Real.cos eta0)) = false)
    (hnq : (Scalar.isSmall (|Real.cos mu0| * Real.sin qaz0) && Scalar.isSmall (|Real.cos mu0| * Real.cos qaz0)) = false) :
    ∃ l, refConChiPhi chi phi psi theta N = .ok l ∧
      ∃ t ∈ l, SameAngle t.1 qaz0 ∧ t.2.1 = psi ∧ SameAngle t.2.2.1 mu0 ∧ SameAngle t.2.2.2.1 eta0 ∧ t.2.2.2.2.1 = chi ∧ t.2.2.2.2.2 = phi := by
  obtain ⟨e21, e20, e22, e01, e11⟩ := refV_entries mu0 eta0 chi phi qaz0 _ hS
  simp only [isSmall_abs_mul] at hne hnq
  obtain ⟨mu, hmu, hs⟩ := exists_mem_pair (asin_roots_complete mu0 _ (Real.abs_sin_le_one _) rfl)
  -- at either root the cosine has the magnitude of `cos mu0`, so the "cannot be chosen uniquely" tests read as they do at `mu0`
  have hns : ∀ m ∈ [Real.arcsin (Real.sin mu0), Real.pi - Real.arcsin (Real.sin mu0)], Scalar.isSmall (Real.cos m) = false := fun m hm => by
    rw [isSmall_of_abs_eq (sin_of_mem_asin_pair (Real.abs_sin_le_one mu0) hm).2]; exact hgen
  have hc0 : Scalar.isSmall (Real.cos mu0) = false := hs.2 ▸ hns mu hmu
  unfold refConChiPhi
  simp only [refConChiPhi_V, cp, e21, e01, e11, e22, e20, neg_mul_comm, neg_neg, boundAsin_eq (Real.abs_sin_le_one mu0), tryAssert_ok,
    rs_cos, rs_pi, rs_atan2, hgen, Bool.false_eq_true, if_false]
  refine yields_forM' (fun m hm => ?_) hmu ?_
  · simp only [isSmall_sign_mul (hns m hm), hne, hnq, Bool.false_eq_true, if_false]
    exact ⟨_, rfl⟩
  -- the root congruent to `mu0` reads off `qaz0` and `eta0`
  · rw [hs.2]
    simp only [isSmall_sign_mul hc0, hne, hnq, Bool.false_eq_true, if_false]
    exact yields_ok List.mem_cons_self ⟨sameAngle_atan2_sign hc0, rfl, hs, sameAngle_atan2_sign hc0, rfl, rfl⟩

/-! ## the two branches that go through `__get_chi_and_qaz` (mu + phi and eta + phi given) -/

/-- **`__get_chi_and_qaz` recovers chi and qaz** of a solution from `V = F(qaz)ᵀ·MU·ETA·CHI`: the arguments of the `atan2` for chi, which the
    code tests first, are `(1 − cos²μ cos²η)` times the sine and the cosine of `chi0`; qaz turns the pair the sound side names (`chiAndQaz_sound`) -/
theorem chiAndQaz_complete (mu eta qaz0 chi0 : ℝ) (V : M3 ℝ) (hV : V = fmec qaz0 mu eta chi0)
    (hr : (Real.cos mu * Real.cos eta) ^ 2 ≠ 1)
    (hns : (Scalar.isSmall ((1 - (Real.cos mu * Real.cos eta) ^ 2) * Real.sin chi0) &&
            Scalar.isSmall ((1 - (Real.cos mu * Real.cos eta) ^ 2) * Real.cos chi0)) = false) :
    ∃ q c, chiAndQaz mu eta V = .ok (q, c) ∧ SameAngle q qaz0 ∧ SameAngle c chi0 := by
  obtain ⟨e10, e12, e11, e01, e21⟩ := fmec_entries qaz0 mu eta chi0
  rw [← hV] at e10 e12 e11 e01 e21
  obtain ⟨hab, hab'⟩ := chiAndQaz_norms (k := Real.cos mu * Real.cos eta) rfl
  have hk := sub_ne_zero.mpr hr.symm
  have f1 : Real.sin mu * V.a10 + -(Real.cos mu) * Real.sin eta * V.a12 = (1 - (Real.cos mu * Real.cos eta) ^ 2) * Real.sin chi0 := by
    rw [e10, e12, ← hab]; ring
  have f2 : -(Real.cos mu) * Real.sin eta * V.a10 - Real.sin mu * V.a12 = (1 - (Real.cos mu * Real.cos eta) ^ 2) * Real.cos chi0 := by
    rw [e10, e12, ← hab]; ring
  unfold chiAndQaz
  simp only [rs_sin, rs_cos, rs_atan2, f1, f2, hns, Bool.false_eq_true, if_false]
  exact ⟨_, _, rfl, sameAngle_planar (v := -V.a21) (hab'.trans_ne hk) e01.symm (by rw [e21, neg_neg]) (by ring) (by ring),
    sameAngle_atan2 _ _ _ _ (pos_of_sq_add_sq hab hk) rfl rfl⟩

/-- the body of the loop of either branch at a representative `(mu, eta)` of the solution's two angles: it yields the tuple with chi and qaz
    recovered -/
theorem yields_chiAndQaz {N : M3 ℝ} (hN : IsRot N) {qaz0 psi theta mu0 eta0 chi0 phi mu eta : ℝ} {Q : RTuple ℝ → Prop}
    (hS : RefSpec (Vref psi theta N) (qaz0, psi, mu0, eta0, chi0, phi)) (hm : SameAngle mu mu0) (he : SameAngle eta eta0)
    (hr : (Real.cos mu0 * Real.cos eta0) ^ 2 ≠ 1)
    (hns : (Scalar.isSmall ((1 - (Real.cos mu0 * Real.cos eta0) ^ 2) * Real.sin chi0) &&
            Scalar.isSmall ((1 - (Real.cos mu0 * Real.cos eta0) ^ 2) * Real.cos chi0)) = false)
    (hQ : ∀ q c, SameAngle q qaz0 → SameAngle c chi0 → Q (q, psi, mu, eta, c, phi)) :
    Yields Q (chiAndQaz mu eta (Vref2 phi psi theta N) >>= fun x => match x with | (qaz, chi) => pure [(qaz, psi, mu, eta, chi, phi)]) := by
  have hV : Vref2 phi psi theta N = fmec qaz0 mu eta chi0 := by
    rw [(refSpec_iff_fmec hN).mp hS]; simp only [fmec, mec_entries, hm.1, hm.2, he.1, he.2]
  obtain ⟨q, c, hok, hq, hc⟩ := chiAndQaz_complete mu eta qaz0 chi0 _ hV (by rw [hm.2, he.2]; exact hr) (by rw [hm.2, he.2]; exact hns)
  exact yields_bind hok (yields_ok List.mem_cons_self (hQ q c hq hc))

/-- the loop the two branches share (`allOk_acos_loop`): a root `t0` of `c cos t = y` is matched by a member of the pair `± acos (y / c)`,
    and the body must raise at neither member (an exception there ends the whole request) -/
theorem yields_acos_loop {β : Type} {Q : β → Prop} {c y t0 : ℝ} {f : ℝ → Py (List β)} (hc : Scalar.isSmall c = false)
    (h0 : y = c * Real.cos t0) (hall : ∀ t ∈ [Real.arccos (Real.cos t0), -Real.arccos (Real.cos t0)], ∃ ys, f t = .ok ys)
    (h : ∀ t, SameAngle t t0 → Yields Q (f t)) :
    Yields Q (if Scalar.isSmall c then .error .dce else tryAssert (boundAcos (y / c)) fun a => forM' [a, -a] f) := by
  obtain ⟨t, ht, hs⟩ := exists_mem_pair (acos_roots_complete t0 _ (Real.abs_cos_le_one _) rfl)
  rw [if_neg (by simp [hc]), h0, mul_div_cancel_left₀ _ (not_small_ne_zero hc), boundAcos_eq (Real.abs_cos_le_one t0), tryAssert_ok]
  exact yields_forM' hall ht (h t hs)

/-- **completeness of `__calc_sample_ref_con_mu_phi`** (mu and phi given): eta from a complete pair of `acos` roots, chi and qaz read off.
    `hsib`: the sibling root does not make `__get_chi_and_qaz` raise (an exception there ends the whole request). -/
theorem refConMuPhi_complete (mu phi psi theta : ℝ) (N : M3 ℝ) (hN : IsRot N)
    (qaz0 eta0 chi0 : ℝ) (hS : RefSpec (Vref psi theta N) (qaz0, psi, mu, eta0, chi0, phi))
    (hcm : Scalar.isSmall (Real.cos mu) = false)
    (hr : (Real.cos mu * Real.cos eta0) ^ 2 ≠ 1)
    (hns : (Scalar.isSmall ((1 - (Real.cos mu * Real.cos eta0) ^ 2) * Real.sin chi0) &&
            Scalar.isSmall ((1 - (Real.cos mu * Real.cos eta0) ^ 2) * Real.cos chi0)) = false)
    (hsib : ∀ eta ∈ [Real.arccos (Real.cos eta0), -Real.arccos (Real.cos eta0)], ∃ qc, chiAndQaz mu eta (Vref2 phi psi theta N) = .ok qc) :
    ∃ l, refConMuPhi mu phi psi theta N = .ok l ∧
      ∃ t ∈ l, SameAngle t.1 qaz0 ∧ t.2.1 = psi ∧ t.2.2.1 = mu ∧ SameAngle t.2.2.2.1 eta0 ∧ SameAngle t.2.2.2.2.1 chi0 ∧ t.2.2.2.2.2 = phi := by
  refine yields_acos_loop hcm ?_ (fun e he => (hsib e he).elim fun _ hqc => bind_total hqc ⟨_, rfl⟩) fun eta hs =>
    yields_chiAndQaz hN hS (sameAngle_refl mu) hs hr hns fun _ _ hq hc => ⟨hq, rfl, rfl, hs, hc, rfl⟩
  rw [(refSpec_iff_fmec hN).mp hS, (fmec_entries _ _ _ _).2.2.1]
  rfl

/-- **completeness of `__calc_sample_ref_con_eta_phi`** (eta and phi given): mu from a complete pair of `acos` roots, chi and qaz read off -/
theorem refConEtaPhi_complete (eta phi psi theta : ℝ) (N : M3 ℝ) (hN : IsRot N)
    (qaz0 mu0 chi0 : ℝ) (hS : RefSpec (Vref psi theta N) (qaz0, psi, mu0, eta, chi0, phi))
    (hce : Scalar.isSmall (Real.cos eta) = false)
    (hr : (Real.cos mu0 * Real.cos eta) ^ 2 ≠ 1)
    (hns : (Scalar.isSmall ((1 - (Real.cos mu0 * Real.cos eta) ^ 2) * Real.sin chi0) &&
            Scalar.isSmall ((1 - (Real.cos mu0 * Real.cos eta) ^ 2) * Real.cos chi0)) = false)
    (hsib : ∀ mu ∈ [Real.arccos (Real.cos mu0), -Real.arccos (Real.cos mu0)], ∃ qc, chiAndQaz mu eta (Vref2 phi psi theta N) = .ok qc) :
    ∃ l, refConEtaPhi eta phi psi theta N = .ok l ∧
      ∃ t ∈ l, SameAngle t.1 qaz0 ∧ t.2.1 = psi ∧ SameAngle t.2.2.1 mu0 ∧ t.2.2.2.1 = eta ∧ SameAngle t.2.2.2.2.1 chi0 ∧ t.2.2.2.2.2 = phi := by
  refine yields_acos_loop hce ?_ (fun m hm => (hsib m hm).elim fun _ hqc => bind_total hqc ⟨_, rfl⟩) fun mu hs =>
    yields_chiAndQaz hN hS hs (sameAngle_refl eta) hr hns fun _ _ hq hc => ⟨hq, rfl, hs, rfl, hc, rfl⟩
  rw [(refSpec_iff_fmec hN).mp hS, (fmec_entries _ _ _ _).2.2.1, mul_comm]
  rfl

/-! ## the branches that go through `__get_phi_and_qaz` -/

/-- **`__get_phi_and_qaz` recovers phi and qaz** of a solution `V = Zᵀ·F(qaz)`: they turn the same two pairs onto the same two pairs as the
    read-offs do (`refSpec_phiAndQaz`) -/
theorem phiAndQaz_complete (chi eta mu qaz0 phi0 : ℝ) (V : M3 ℝ)
    (hV : V = M3.mul (M3.transpose (C04.Z mu eta chi phi0)) (Fq qaz0)) (hr : V.a21 ^ 2 ≠ 1) :
    SameAngle (phiAndQaz chi eta mu V).1 qaz0 ∧ SameAngle (phiAndQaz chi eta mu V).2 phi0 := by
  have hM := isRot_mec mu eta chi
  rw [Z_eq_mec_phi] at hV
  rw [phiAndQaz_mec rfl]
  generalize mec mu eta chi = M at hM hV ⊢
  obtain ⟨e20, e22, e21, e11, e01⟩ := MPt_Fq_entries M phi0 qaz0
  rw [← hV] at e20 e22 e21 e11 e01
  -- neither pair is null: its squared length is `1 − V21²`
  have hc : M.a22 ^ 2 + M.a02 ^ 2 ≠ 0 := fun h => hr (by rw [e21]; linear_combination hM.col_sq.2.2 - h)
  have hw : M.a11 ^ 2 + M.a10 ^ 2 ≠ 0 := fun h => hr (by rw [e21]; linear_combination hM.row_sq.2.1 - h)
  exact ⟨sameAngle_planar (v := -V.a22) hc e20.symm (by rw [e22, neg_neg]) (by ring) (by ring),
    sameAngle_planar hw e11.symm e01.symm (by ring) (by ring)⟩

/-- a solution satisfies the `V21` equation … -/
theorem a21_of_refSpec {V : M3 ℝ} {qaz psi mu eta chi phi : ℝ} (hS : RefSpec V (qaz, psi, mu, eta, chi, phi)) :
    -V.a21 = Real.sin chi * Real.sin eta * Real.cos mu + Real.cos chi * Real.sin mu := by
  rw [refSpec_iff_Zt.mp hS, Z_eq_mec_phi, (MPt_Fq_entries _ phi qaz).2.2.1, mec_entries]
  ring

/-- … and `__get_phi_and_qaz` recovers its phi and qaz from any representatives of its other three angles -/
theorem phiAndQaz_of_refSpec {V : M3 ℝ} {qaz0 psi mu0 eta0 chi0 phi0 : ℝ} (hS : RefSpec V (qaz0, psi, mu0, eta0, chi0, phi0))
    (hne : V.a21 ^ 2 ≠ 1) {mu eta chi : ℝ} (hm : SameAngle mu mu0) (he : SameAngle eta eta0) (hc : SameAngle chi chi0) :
    SameAngle (phiAndQaz chi eta mu V).1 qaz0 ∧ SameAngle (phiAndQaz chi eta mu V).2 phi0 :=
  phiAndQaz_complete chi eta mu qaz0 phi0 V
    (by rw [refSpec_iff_Zt.mp hS, Z_congr4 _ _ _ _ _ _ _ _ hm he hc (sameAngle_refl phi0)]) hne

/-- **completeness of `__calc_sample_ref_con_chi_mu`** (chi and mu given): eta from a complete pair of `asin` roots, phi and qaz read off -/
theorem refConChiMu_complete (chi mu psi theta : ℝ) (N : M3 ℝ)
    (qaz0 eta0 phi0 : ℝ) (hS : RefSpec (Vref psi theta N) (qaz0, psi, mu, eta0, chi, phi0))
    (hd : Real.sin chi * Real.cos mu ≠ 0) (hne : (Vref psi theta N).a21 ^ 2 ≠ 1) :
    ∃ l, refConChiMu chi mu psi theta N = .ok l ∧
      ∃ t ∈ l, SameAngle t.1 qaz0 ∧ t.2.1 = psi ∧ t.2.2.1 = mu ∧ SameAngle t.2.2.2.1 eta0 ∧ t.2.2.2.2.1 = chi ∧ SameAngle t.2.2.2.2.2 phi0 := by
  have hx : Real.sin eta0 = (-(Vref psi theta N).a21 - Real.cos chi * Real.sin mu) / (Real.sin chi * Real.cos mu) :=
    eq_div_of_mul_eq hd (by rw [a21_of_refSpec hS]; ring)
  have hxabs := hx ▸ Real.abs_sin_le_one eta0
  obtain ⟨eta, heta, hs⟩ := exists_mem_pair (asin_roots_complete eta0 _ hxabs hx)
  obtain ⟨hq, hp⟩ := phiAndQaz_of_refSpec hS hne (sameAngle_refl mu) hs (sameAngle_refl chi)
  unfold refConChiMu
  simp only [rs_sin, rs_cos, rs_pi, boundAsin_eq hxabs, tryAssert_ok]
  exact ⟨_, rfl, _, List.mem_map.mpr ⟨eta, heta, rfl⟩, hq, rfl, rfl, hs, rfl, hp⟩

/-! ## the two branches with a phase-shifted root pair (mu + eta given: chi; chi + eta given: mu) -/

/-- the equation `X = A sin t + B cos t` and the two root pairs `calc_reference.py` chooses between, in the code's spelling: `asin(X/R)` shifted by
    `atan2(B, A)`, and `acos(X/R)` shifted by `atan2(A, B)`; each pair is complete.  The two branches below go through `shifted_pair_iff`
    (`yields_shiftedLoop`), which picks the pair by the code's test. -/
theorem shifted_roots (t A B X : ℝ) (hne : A ≠ 0 ∨ B ≠ 0) (hX : X = A * Real.sin t + B * Real.cos t) :
    |X / Real.sqrt (A * A + B * B)| ≤ 1 ∧
    (SameAngle t (Real.arcsin (X / Real.sqrt (A * A + B * B)) - atan2R B A) ∨
     SameAngle t (Real.pi - Real.arcsin (X / Real.sqrt (A * A + B * B)) - atan2R B A)) ∧
    (SameAngle t (atan2R A B + Real.arccos (X / Real.sqrt (A * A + B * B))) ∨
     SameAngle t (atan2R A B - Real.arccos (X / Real.sqrt (A * A + B * B)))) := by
  have hr : 0 < Scalar.hypot A B := hypot_pos_iff.mpr hne
  have h : A * Real.sin t + B * Real.cos t = Scalar.hypot A B * (X / Scalar.hypot A B) := by rw [mul_div_cancel₀ _ hr.ne', hX]
  exact ⟨((lin_sin_add_iff hr _ t).mp h).1, ((lin_sin_add_iff hr _ t).mp h).2, ((lin_cos_add_iff hr _ t).mp h).2⟩

/-- the root stage the two branches share (`allOk_shiftedLoop`): a root `t0` of `p sin t + q cos t = y` is matched by a member of the pair
    the code picks -/
theorem yields_shiftedLoop {β : Type} {Q : β → Prop} (p q : ℝ) {rad y t0 : ℝ} {c : Bool} {k : ℝ → β}
    (hrad : Real.sqrt rad = Scalar.hypot p q) (hr : 0 < Scalar.hypot p q) (h0 : p * Real.sin t0 + q * Real.cos t0 = y)
    (h : ∀ t, SameAngle t t0 → Q (k t)) : Yields Q (shiftedLoop rad p q y c k) := by
  obtain ⟨hclip, t, ht, hs⟩ := (shifted_pair_iff hr (y / Scalar.hypot p q) t0 (c = true)).mp (by rw [mul_div_cancel₀ _ hr.ne', h0])
  unfold shiftedLoop
  simp only [pySqrt_eq (Real.sqrt_pos.mp (hrad ▸ hr)).le, hrad, bind, Except.bind, bound_id hclip, tryAssert_ok, pyAcos_eq hclip, pyAsin_eq hclip,
    pure, Except.pure, ok_ite, map_ite]
  exact yields_ok (List.mem_map.mpr ⟨t, ht, rfl⟩) (h t hs)

/-- **completeness of `__calc_sample_ref_con_mu_eta`** (mu and eta given): chi from a complete, phase-shifted root pair (either of the two
    forms the source chooses between), phi and qaz read off -/
theorem refConMuEta_complete (mu eta psi theta : ℝ) (N : M3 ℝ)
    (qaz0 chi0 phi0 : ℝ) (hS : RefSpec (Vref psi theta N) (qaz0, psi, mu, eta, chi0, phi0))
    (hR : Real.sin eta * Real.cos mu ≠ 0 ∨ Real.sin mu ≠ 0) (hne : (Vref psi theta N).a21 ^ 2 ≠ 1) :
    ∃ l, refConMuEta mu eta psi theta N = .ok l ∧
      ∃ t ∈ l, SameAngle t.1 qaz0 ∧ t.2.1 = psi ∧ t.2.2.1 = mu ∧ t.2.2.2.1 = eta ∧ SameAngle t.2.2.2.2.1 chi0 ∧ SameAngle t.2.2.2.2.2 phi0 :=
  yields_shiftedLoop (Real.sin eta * Real.cos mu) (Real.sin mu) (sqrt_sumsq _ _ _) (hypot_pos_iff.mpr hR)
    (by rw [a21_of_refSpec hS]; ring) fun _ hs =>
    let ⟨hq, hp⟩ := phiAndQaz_of_refSpec hS hne (sameAngle_refl mu) (sameAngle_refl eta) hs
    ⟨hq, rfl, rfl, rfl, hs, hp⟩

/-- **completeness of `__calc_sample_ref_con_chi_eta`** (chi and eta given): mu from a complete, phase-shifted root pair, phi and qaz read off -/
theorem refConChiEta_complete (chi eta psi theta : ℝ) (N : M3 ℝ)
    (qaz0 mu0 phi0 : ℝ) (hS : RefSpec (Vref psi theta N) (qaz0, psi, mu0, eta, chi, phi0))
    (hR : Real.cos chi ≠ 0 ∨ Real.sin chi * Real.sin eta ≠ 0) (hne : (Vref psi theta N).a21 ^ 2 ≠ 1) :
    ∃ l, refConChiEta chi eta psi theta N = .ok l ∧
      ∃ t ∈ l, SameAngle t.1 qaz0 ∧ t.2.1 = psi ∧ SameAngle t.2.2.1 mu0 ∧ t.2.2.2.1 = eta ∧ t.2.2.2.2.1 = chi ∧ SameAngle t.2.2.2.2.2 phi0 :=
  yields_shiftedLoop (Real.cos chi) (Real.sin chi * Real.sin eta)
    ((sqrt_sumsq (Real.sin eta) (Real.sin chi) (Real.cos chi)).trans (by rw [hypot_comm, mul_comm])) (hypot_pos_iff.mpr hR)
    (by rw [a21_of_refSpec hS]; ring) fun _ hs =>
    let ⟨hq, hp⟩ := phiAndQaz_of_refSpec hS hne hs (sameAngle_refl eta) (sameAngle_refl chi)
    ⟨hq, rfl, hs, rfl, rfl, hp⟩

/-- the position carries the two given sample values of a reference + two-sample mode -/
def CarriesRef (s : Samp2Ref ℝ) (mu eta chi phi : ℝ) : Prop :=
  match s with
  | .chiPhi c p => chi = c ∧ phi = p
  | .muEta m e => mu = m ∧ eta = e
  | .chiEta c e => chi = c ∧ eta = e
  | .chiMu c m => chi = c ∧ mu = m
  | .muPhi m p => mu = m ∧ phi = p
  | .etaPhi e p => eta = e ∧ phi = p

/-- generic branch of each of the six solvers at the position to be recovered (no degenerate axis, `V21² ≠ 1`, no sibling root of
    `__get_chi_and_qaz` raising) -/
def Samp2RefRegular (s : Samp2Ref ℝ) (psi theta : ℝ) (N : M3 ℝ) (qaz mu eta chi phi : ℝ) : Prop :=
  match s with
  | .chiPhi _ _ => Scalar.isSmall (Real.cos (Real.arcsin (Real.sin mu))) = false ∧
      (Scalar.isSmall (|Real.cos mu| * Real.sin eta) && Scalar.isSmall (|Real.cos mu| * Real.cos eta)) = false ∧
      (Scalar.isSmall (|Real.cos mu| * Real.sin qaz) && Scalar.isSmall (|Real.cos mu| * Real.cos qaz)) = false
  | .muEta _ _ => (Real.sin eta * Real.cos mu ≠ 0 ∨ Real.sin mu ≠ 0) ∧ (Vref psi theta N).a21 ^ 2 ≠ 1
  | .chiEta _ _ => (Real.cos chi ≠ 0 ∨ Real.sin chi * Real.sin eta ≠ 0) ∧ (Vref psi theta N).a21 ^ 2 ≠ 1
  | .chiMu _ _ => Real.sin chi * Real.cos mu ≠ 0 ∧ (Vref psi theta N).a21 ^ 2 ≠ 1
  | .muPhi _ _ => Scalar.isSmall (Real.cos mu) = false ∧ (Real.cos mu * Real.cos eta) ^ 2 ≠ 1 ∧
      (Scalar.isSmall ((1 - (Real.cos mu * Real.cos eta) ^ 2) * Real.sin chi) && Scalar.isSmall ((1 - (Real.cos mu * Real.cos eta) ^ 2) * Real.cos chi)) = false ∧
      (∀ e ∈ [Real.arccos (Real.cos eta), -Real.arccos (Real.cos eta)], ∃ qc, chiAndQaz mu e (Vref2 phi psi theta N) = .ok qc)
  | .etaPhi _ _ => Scalar.isSmall (Real.cos eta) = false ∧ (Real.cos mu * Real.cos eta) ^ 2 ≠ 1 ∧
      (Scalar.isSmall ((1 - (Real.cos mu * Real.cos eta) ^ 2) * Real.sin chi) && Scalar.isSmall ((1 - (Real.cos mu * Real.cos eta) ^ 2) * Real.cos chi)) = false ∧
      (∀ m ∈ [Real.arccos (Real.cos mu), -Real.arccos (Real.cos mu)], ∃ qc, chiAndQaz m eta (Vref2 phi psi theta N) = .ok qc)

/-- **completeness of `_calc_sample_con_two_sample_and_reference`, all six branches behind the dispatcher**: every solution of the orientation
    equation `Z·N_phi·PSIᵀ·THETAᵀ = F(qaz)` that carries the two given sample angles is returned, modulo 2π in the computed angles -/
theorem twoSampleReference_complete (s : Samp2Ref ℝ) (psi theta : ℝ) (N : M3 ℝ) (hN : IsRot N)
    (qaz0 mu0 eta0 chi0 phi0 : ℝ) (hS : RefSpec (Vref psi theta N) (qaz0, psi, mu0, eta0, chi0, phi0))
    (hc : CarriesRef s mu0 eta0 chi0 phi0) (hr : Samp2RefRegular s psi theta N qaz0 mu0 eta0 chi0 phi0) :
    ∃ l, twoSampleReference s psi theta N = .ok l ∧
      ∃ t ∈ l, SameAngle t.1 qaz0 ∧ t.2.1 = psi ∧ SameAngle t.2.2.1 mu0 ∧ SameAngle t.2.2.2.1 eta0 ∧ SameAngle t.2.2.2.2.1 chi0 ∧ SameAngle t.2.2.2.2.2 phi0 := by
  cases s with
  | chiPhi c p =>
    obtain ⟨rfl, rfl⟩ := hc
    obtain ⟨l, hl, t, ht, h1, h2, h3, h4, h5, h6⟩ := refConChiPhi_complete _ _ psi theta N qaz0 mu0 eta0 hS hr.1 hr.2.1 hr.2.2
    exact ⟨l, hl, t, ht, h1, h2, h3, h4, sameAngle_of_eq h5, sameAngle_of_eq h6⟩
  | muEta m e =>
    obtain ⟨rfl, rfl⟩ := hc
    obtain ⟨l, hl, t, ht, h1, h2, h3, h4, h5, h6⟩ := refConMuEta_complete _ _ psi theta N qaz0 chi0 phi0 hS hr.1 hr.2
    exact ⟨l, hl, t, ht, h1, h2, sameAngle_of_eq h3, sameAngle_of_eq h4, h5, h6⟩
  | chiEta c e =>
    obtain ⟨rfl, rfl⟩ := hc
    obtain ⟨l, hl, t, ht, h1, h2, h3, h4, h5, h6⟩ := refConChiEta_complete _ _ psi theta N qaz0 mu0 phi0 hS hr.1 hr.2
    exact ⟨l, hl, t, ht, h1, h2, h3, sameAngle_of_eq h4, sameAngle_of_eq h5, h6⟩
  | chiMu c m =>
    obtain ⟨rfl, rfl⟩ := hc
    obtain ⟨l, hl, t, ht, h1, h2, h3, h4, h5, h6⟩ := refConChiMu_complete _ _ psi theta N qaz0 eta0 phi0 hS hr.1 hr.2
    exact ⟨l, hl, t, ht, h1, h2, sameAngle_of_eq h3, h4, sameAngle_of_eq h5, h6⟩
  | muPhi m p =>
    obtain ⟨rfl, rfl⟩ := hc
    obtain ⟨l, hl, t, ht, h1, h2, h3, h4, h5, h6⟩ := refConMuPhi_complete _ _ psi theta N hN qaz0 eta0 chi0 hS hr.1 hr.2.1 hr.2.2.1 hr.2.2.2
    exact ⟨l, hl, t, ht, h1, h2, sameAngle_of_eq h3, h4, h5, sameAngle_of_eq h6⟩
  | etaPhi e p =>
    obtain ⟨rfl, rfl⟩ := hc
    obtain ⟨l, hl, t, ht, h1, h2, h3, h4, h5, h6⟩ := refConEtaPhi_complete _ _ psi theta N hN qaz0 mu0 chi0 hS hr.1 hr.2.1 hr.2.2.1 hr.2.2.2
    exact ⟨l, hl, t, ht, h1, h2, h3, sameAngle_of_eq h4, h5, sameAngle_of_eq h6⟩

/-! ## names this property's check refers to; each restates a fact proved elsewhere -/

/-- a solution, read in the transposed arrangement of the orientation equation -/
theorem fmec_of_refSpec (N : M3 ℝ) (hN : IsRot N) (qaz psi theta mu eta chi phi : ℝ)
    (h : RefSpec (Vref psi theta N) (qaz, psi, mu, eta, chi, phi)) : Vref2 phi psi theta N = fmec qaz mu eta chi :=
  (refSpec_iff_fmec hN).mp h

end
end C03
