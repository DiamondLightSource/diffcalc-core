import Diffcalc.Gen.SolverLeaf
import Diffcalc.Gen.SolverDispatch
import Diffcalc.Gen.UtilLeaf
import Diffcalc.Solver.Reference
import Diffcalc.Solver.Func
import Diffcalc.Solver.Sample
import Diffcalc.Solver.Detector
/-!
# Tie T for the solver model

`Gen/SolverLeaf.lean`, `Gen/SolverDispatch.lean` and `Gen/UtilLeaf.lean` are regenerated from `calc_reference.py`, `calc_func.py`,
`calc_sample.py`, `calc_detector.py` and `util.py` on every run.  The theorems below say that each function of the hand model named in them
(`Solver.*`, `PyOps.bound`, `Scalar.sign`, ...: straight-line leaves, whole branch bodies with their guards and loops, the numeric primitives
and the two dispatchers), about which the C01 / C03 theorems are stated, IS the generated definition — for every scalar type, hence for the
`Float` reading the driver executes and for the `ℝ` reading the proofs use.  A change of those source functions changes the generated text and
these proofs stop checking: the tie is broken by construction, not by sampling.  Most are `rfl`; where the translator and the hand model differ
in shape (`sampleConMu`, the two bisect branches, hence `twoSampleDetector`) the comment at the theorem says how.
-/
namespace TieSolver
open Scalar PyOps Solver
variable {α : Type} [Scalar α]

theorem phiAndQaz_generated (chi eta mu : α) (V : M3 α) : Gen.get_phi_and_qaz chi eta mu V = Solver.phiAndQaz chi eta mu V := rfl

theorem chiAndQaz_generated (mu eta : α) (V : M3 α) : Gen.get_chi_and_qaz mu eta V = Solver.chiAndQaz mu eta V := rfl

theorem qazValue_generated (mu eta chi phi : α) (h : V3 α) (theta : α) :
    Gen.get_qaz_value mu eta chi phi h theta = Solver.qazValue mu eta chi phi h theta := rfl

theorem sampleFromChiEta_generated (chi eta : α) (Z : M3 α) : Gen.calc_sample_from_chi_eta chi eta Z = Solver.sampleFromChiEta chi eta Z := rfl

theorem detFromQaz_generated (qaz theta : α) : Gen.calc_remaining_detector_angles_qaz qaz theta = Solver.detFromQaz qaz theta := rfl

/-! four of the six reference + two-sample branches (`calc_reference.py`), whole bodies: matrix products, guards, `try … except AssertionError`,
the candidate lists and the loops -/

theorem refConChiMu_generated (chi mu psi theta : α) (N : M3 α) :
    Gen.calc_sample_ref_con_chi_mu chi mu psi theta N = Solver.refConChiMu chi mu psi theta N := rfl

theorem refConMuPhi_generated (mu phi psi theta : α) (N : M3 α) :
    Gen.calc_sample_ref_con_mu_phi mu phi psi theta N = Solver.refConMuPhi mu phi psi theta N := rfl

theorem refConEtaPhi_generated (eta phi psi theta : α) (N : M3 α) :
    Gen.calc_sample_ref_con_eta_phi eta phi psi theta N = Solver.refConEtaPhi eta phi psi theta N := rfl

theorem refConChiPhi_generated (chi phi psi theta : α) (N : M3 α) :
    Gen.calc_sample_ref_con_chi_phi chi phi psi theta N = Solver.refConChiPhi chi phi psi theta N := rfl

/-! the single-sample branches that do not need `catchAssert` and three of the detector + two-sample branches (`calc_sample.py`), whole bodies -/

theorem sampleConPhi_generated (phi : α) (Nl N : M3 α) : Gen.calc_sample_con_phi phi Nl N = Solver.sampleConPhi phi Nl N := rfl

theorem sampleConChi_generated (chi : α) (Nl N : M3 α) : Gen.calc_sample_con_chi chi Nl N = Solver.sampleConChi chi Nl N := rfl

theorem sampleConEta_generated (eta : α) (Nl N : M3 α) : Gen.calc_sample_con_eta eta Nl N = Solver.sampleConEta eta Nl N := rfl

theorem sampleConMuChi_generated (mu chi qaz theta : α) (N : M3 α) :
    Gen.calc_sample_con_mu_chi mu chi qaz theta N = Solver.sampleConMuChi mu chi qaz theta N := rfl

theorem sampleConEtaPhi_generated (eta phi qaz theta : α) (N : M3 α) :
    Gen.calc_sample_con_eta_phi eta phi qaz theta N = Solver.sampleConEtaPhi eta phi qaz theta N := rfl

theorem sampleConEtaChi_generated (eta chi qaz theta : α) (N : M3 α) :
    Gen.calc_sample_con_eta_chi eta chi qaz theta N = Solver.sampleConEtaChi eta chi qaz theta N := rfl

theorem sampleConMuPhi_generated (mu phi qaz theta : α) (N : M3 α) :
    Gen.calc_sample_con_mu_phi mu phi qaz theta N = Solver.sampleConMuPhi mu phi qaz theta N := rfl

theorem sampleConMuEta_generated (mu eta qaz theta : α) (N : M3 α) :
    Gen.calc_sample_con_mu_eta mu eta qaz theta N = Solver.sampleConMuEta mu eta qaz theta N := rfl

/-! the two detector branches with a sign filter over a product of candidate lists (`calc_detector.py`) -/

theorem detFromDelta_generated (delta theta : α) : Gen.calc_remaining_detector_angles_delta delta theta = Solver.detFromDelta delta theta := rfl

theorem detFromNu_generated (nu theta : α) : Gen.calc_remaining_detector_angles_nu nu theta = Solver.detFromNu nu theta := rfl

/-- `__calc_sample_con_mu`: the translator's `tryAssert … fun v => …` against the hand model's `catchAssert do …` (not the same term: by cases on
the guarded `acos` and on the degenerate-chi test) -/
theorem sampleConMu_generated (mu : α) (Nl N : M3 α) : Gen.calc_sample_con_mu mu Nl N = Solver.sampleConMu mu Nl N := by
  unfold Gen.calc_sample_con_mu Solver.sampleConMu Solver.tryAssert Solver.catchAssert
  dsimp only
  generalize Solver.boundAcos (M3.mul (M3.mul (M3.inv (Gen.rot_MU mu)) Nl) (M3.transpose N)).a22 = r
  cases r with
  | error e => cases e <;> rfl
  | ok v => dsimp only [bind, Except.bind]; split <;> rfl

/-! the three branches with a square root inside the guarded expression: `math.sqrt` first (`pySqrt`), then `bound`; in the two reference
branches the guarded value is kept and each branch of the if / else applies its own inverse function once -/

theorem refConMuEta_generated (mu eta psi theta : α) (N : M3 α) :
    Gen.calc_sample_ref_con_mu_eta mu eta psi theta N = Solver.refConMuEta mu eta psi theta N := rfl

theorem refConChiEta_generated (chi eta psi theta : α) (N : M3 α) :
    Gen.calc_sample_ref_con_chi_eta chi eta psi theta N = Solver.refConChiEta chi eta psi theta N := rfl

theorem sampleConChiPhi_generated (chi phi qaz theta : α) (N : M3 α) :
    Gen.calc_sample_con_chi_phi chi phi qaz theta N = Solver.sampleConChiPhi chi phi qaz theta N := rfl

theorem sampleConOmegaBisect_generated (omega qaz theta : α) (N : M3 α) :
    Gen.calc_sample_con_omega_bisect omega qaz theta N = Solver.sampleConOmegaBisect omega qaz theta N := rfl

/-! the two bisect branches whose candidate lists are built by `extend` in a loop (-> `flatMap`) after an if-tree with early `return`s: the
translator keeps the product with the one-element list of the constrained axis, the hand model had simplified it away — equal by the `forM'`
lemma below (a `flatMap` of singletons is a `map`), not by `rfl`; the lemma stands here and not in `Lemmas/PyCalc` because this file is
about every scalar type and imports the model only -/

theorem forM'_map {β γ δ : Type} (A : List β) (h : β → γ) (g : γ → Py (List δ)) :
    forM' (A.map h) g = forM' A (fun x => g (h x)) := by
  induction A with
  | nil => rfl
  | cons a A ih => simp only [List.map_cons, forM', ih]

theorem sampleConEtaBisect_generated (eta qaz theta : α) (N : M3 α) :
    Gen.calc_sample_con_eta_bisect eta qaz theta N = Solver.sampleConEtaBisect eta qaz theta N := by
  unfold Gen.calc_sample_con_eta_bisect Solver.sampleConEtaBisect
  simp only [List.map_cons, List.map_nil, ← List.map_eq_flatMap, forM'_map]
  rfl

theorem sampleConMuBisect_generated (mu qaz theta : α) (N : M3 α) :
    Gen.calc_sample_con_mu_bisect mu qaz theta N = Solver.sampleConMuBisect mu qaz theta N := by
  unfold Gen.calc_sample_con_mu_bisect Solver.sampleConMuBisect
  by_cases h1 : isSmall (cos qaz) = true
  · by_cases h2 : isSmall (tan mu) = true
    · simp only [h1, h2, if_true, List.flatMap_cons, List.flatMap_nil, List.append_nil, forM'_map]; rfl
    · simp only [h1, h2, if_true, Bool.false_eq_true, if_false, List.flatMap_cons, List.flatMap_nil, List.append_nil, forM'_map]
  · simp only [h1, Bool.false_eq_true, if_false, List.flatMap_cons, List.flatMap_nil, List.append_nil, forM'_map]; rfl

/-! the numeric primitives everything else is built from (`util.py`): the tolerance constant, `bound`, `sign` -/

theorem small_generated : (Gen.small_const : α) = Scalar.SMALL := rfl

theorem bound_generated (x : α) : Gen.util_bound x = PyOps.bound x := rfl

theorem sign_generated (x : α) : Gen.util_sign x = Scalar.sign x := rfl

theorem anglesEquivalent_generated (a b : α) : Gen.util_angles_equivalent a b = PyOps.anglesEquivalent a b := rfl

/-! the two dispatchers over the sample-constraint dictionary (`Gen/SolverDispatch.lean`): the order of the `if "a" in … and "b" in …` chain -/

/-- the constraint dictionary of each two-sample pattern, as `Constraints` hands it to the dispatcher (valueless `bisect` stored as `None`) -/
def detCons : Samp2Det α → ConList α
  | .muEta m e => [(.mu, some m), (.eta, some e)]
  | .omegaBisect o => [(.omega, some o), (.bisect, none)]
  | .muBisect m => [(.mu, some m), (.bisect, none)]
  | .etaBisect e => [(.eta, some e), (.bisect, none)]
  | .chiPhi c p => [(.chi, some c), (.phi, some p)]
  | .muPhi m p => [(.mu, some m), (.phi, some p)]
  | .muChi m c => [(.mu, some m), (.chi, some c)]
  | .etaPhi e p => [(.eta, some e), (.phi, some p)]
  | .etaChi e c => [(.eta, some e), (.chi, some c)]

def refCons : Samp2Ref α → ConList α
  | .chiPhi c p => [(.chi, some c), (.phi, some p)]
  | .muEta m e => [(.mu, some m), (.eta, some e)]
  | .chiEta c e => [(.chi, some c), (.eta, some e)]
  | .chiMu c m => [(.chi, some c), (.mu, some m)]
  | .muPhi m p => [(.mu, some m), (.phi, some p)]
  | .etaPhi e p => [(.eta, some e), (.phi, some p)]

theorem twoSampleDetector_generated (s : Samp2Det α) (qaz theta : α) (N : M3 α) :
    Gen.calc_sample_con_two_sample_and_detector (detCons s) qaz theta N = Solver.twoSampleDetector s qaz theta N := by
  cases s with
  | muBisect m => exact sampleConMuBisect_generated m qaz theta N
  | etaBisect e => exact sampleConEtaBisect_generated e qaz theta N
  | _ => rfl

theorem twoSampleReference_generated (s : Samp2Ref α) (psi theta : α) (N : M3 α) :
    Gen.calc_sample_con_two_sample_and_reference (refCons s) psi theta N = Solver.twoSampleReference s psi theta N := by
  cases s <;> rfl
end TieSolver
