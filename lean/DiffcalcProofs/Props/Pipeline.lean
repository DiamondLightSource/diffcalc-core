import DiffcalcProofs.Props.C01
import DiffcalcProofs.Props.C06
/-!
# `__calc_hkl_to_position`, the part every mode shares

`candidates` first turns the cell and the wavelength into the Bragg angle and then dispatches on the mode (`layers`): `candidates_eq`.
A candidate is a solution exactly when it satisfies the two relations of You (1999) at one common azimuth (`LayerSpec`): the detector
relation, and `Z · ĥ = q̂(θ, qaz)` for the unit scattering direction `ĥ`.  `fwd_of_layerSpec` and `layerSpec_of_fwd` are the two directions;
`fwd_of_request` (opening every exactness theorem) and `request_of_fwd` (opening every completeness theorem) put them together with
`candidates_eq` and `ttheta_eq` for a request `UB = U·B`.  What is left to each mode family is a statement about `layers` alone, in which neither the cell
nor the wavelength occurs.
-/
namespace C03
open Solver
noncomputable section
/-- the psi values the solver tries for a reference constraint -/
def psiList (ref : RefCon ℝ) (alpha theta tau : ℝ) : List (Option ℝ) :=
  match ref with
  | .psi v => [some v]
  | _ => calcPsi alpha theta tau none
end
end C03

namespace C01
open M3 Solver Scalar PyOps
noncomputable section

/-- the Bragg angle delivered by `get_ttheta_from_hkl` for a reachable reflection: `sin θ = λ |B·hkl| / 4π` -/
theorem ttheta_eq (B : M3 ℝ) (hdet : M3.det B ≠ 0) (hkl : V3 ℝ) (wl : ℝ) (hwl : 0 < wl) (hne : 0 < V3.norm (M3.mulVec B hkl))
    (hreach : wl * V3.norm (M3.mulVec B hkl) / (4 * Real.pi) ≤ 1) :
    CrystalModel.ttheta B hkl (Scalar.ofSci 1239842 true 5 / wl) = .ok (2 * Real.arcsin (wl * V3.norm (M3.mulVec B hkl) / (4 * Real.pi))) := by
  unfold CrystalModel.ttheta
  rw [C06.planeDistance_eq B hdet hkl hne]
  generalize V3.norm (M3.mulVec B hkl) = n at hne hreach ⊢
  have hx : (Scalar.ofSci 1239842 true 5 : ℝ) / (Scalar.ofSci 1239842 true 5 / wl) / (2 * Real.pi / n * 2) = wl * n / (4 * Real.pi) := by
    rw [div_div_cancel₀ (by norm_num [Scalar.ofSci]), show 2 * Real.pi / n * 2 = 4 * Real.pi / n by ring, div_div_eq_mul_div]
  have habs : |wl * n / (4 * Real.pi)| ≤ 1 := by rw [abs_of_nonneg (by positivity)]; exact hreach
  simp only [rs_two, hx, bound_id habs, pyAsin_eq habs, Except.map]

/-- `UB = U·B` with `U` a rotation: `UB` is invertible and `|UB·hkl| = |B·hkl|` -/
theorem ub_facts (ub : UBIn ℝ) (U : M3 ℝ) (hU : IsRot U) (hUB : ub.UB = M3.mul U ub.B) (hB : M3.det ub.B ≠ 0) (hkl : V3 ℝ) :
    M3.det ub.UB ≠ 0 ∧ V3.norm (M3.mulVec ub.UB hkl) = V3.norm (M3.mulVec ub.B hkl) := by
  rw [hUB, M3.mulVec_mul, hU.norm]
  exact ⟨hU.det_mul_ne_zero hB, rfl⟩

/-- what `__calc_hkl_to_position` runs once it has the scattering vector `h = UB·hkl` and the Bragg angle -/
def layers (ub : UBIn ℝ) (mode : Mode ℝ) (h : V3 ℝ) (theta : ℝ) : Py (List (Sol ℝ)) :=
  match mode with
  | .detRefSamp det naz ref s => do
    let (n, alpha, tau) ← nphiAlphaTau ub ref h theta
    detSampleReference det naz (.one s) h n theta (some alpha) (some tau)
  | .detSamp2 det s =>
    detSampleReference (some det) none (.two s) h ub.n_phi theta none none
  | .refSamp2 ref s => do
    let (n, alpha, tau) ← nphiAlphaTau ub ref h theta
    forM' (C03.psiList ref alpha theta tau) fun psi =>
      match psi with
      | some p => twoSampleAndReference s h n theta p
      | none => .ok []
  | .samp3 free mu eta chi phi => threeSample free mu eta chi phi h theta

/-- `__calc_hkl_to_position` computes the Bragg angle and hands `UB·hkl` and half of it to the layers -/
theorem candidates_eq (ub : UBIn ℝ) (mode : Mode ℝ) (hkl : V3 ℝ) (wl : ℝ) :
    candidates ub mode hkl wl =
      CrystalModel.ttheta ub.B hkl (Scalar.ofSci 1239842 true 5 / wl) >>= fun tth => layers ub mode (M3.mulVec ub.UB hkl) (tth / 2) := by
  cases mode with
  | refSamp2 ref s =>
    -- the two inner `match`es of this branch are compiled once for `candidates` and once for `layers`
    refine bind_congr fun tth => bind_congr fun ⟨n, alpha, tau⟩ => ?_
    show forM' _ _ = forM' _ _
    congr 1
    · cases ref <;> rfl
    · funext psi; cases psi <;> rfl
  | _ => rfl

/-- the detector relation and the sample relation (on the unit scattering direction `hhat`) at one common azimuth -/
def LayerSpec (theta : ℝ) (hhat : V3 ℝ) (sol : Sol ℝ) : Prop :=
  ∃ qaz, DetSpec sol.2.1 sol.2.2.1 qaz theta ∧
    M3.mulVec (C04.Z sol.1 sol.2.2.2.1 sol.2.2.2.2.1 sol.2.2.2.2.2) hhat = qDir theta qaz

/-- Bragg's law `λ|Q| = 4π sin θ`, as the solver computes the angle and as `qLab_of_DetSpec` spells the length of the scattering vector -/
theorem bragg_iff {wl : ℝ} (hwl : 0 < wl) (n s : ℝ) : wl * n / (4 * Real.pi) = s ↔ n = 2 * (2 * Real.pi / wl) * s := by
  rw [div_eq_iff (by positivity), show 2 * (2 * Real.pi / wl) * s = s * (4 * Real.pi) / wl by ring, eq_div_iff hwl.ne', mul_comm]

/-- Bragg's law turns the relation on directions into the relation on vectors, and `composition` does the rest -/
theorem fwd_of_layerSpec (UB : M3 ℝ) (hdet : M3.det UB ≠ 0) (hkl : V3 ℝ) (hpos : 0 < V3.norm (M3.mulVec UB hkl)) (wl theta : ℝ) (hwl : 0 < wl)
    (hbragg : wl * V3.norm (M3.mulVec UB hkl) / (4 * Real.pi) = Real.sin theta)
    (sol : Sol ℝ) (h : LayerSpec theta (V3.unit (M3.mulVec UB hkl)) sol) :
    C04.fwd UB sol.1 sol.2.1 sol.2.2.1 sol.2.2.2.1 sol.2.2.2.2.1 sol.2.2.2.2.2 wl = hkl := by
  obtain ⟨qaz, hD, hS⟩ := h
  apply composition UB hdet _ _ _ _ _ _ qaz theta wl hkl hD
  conv_lhs => rw [← V3.smul_norm_unit (M3.mulVec UB hkl) hpos]
  rw [M3.mulVec_smul, hS, (bragg_iff hwl _ _).mp hbragg]

/-- a request to the solver (`UB = U·B`, a reachable reflection): the scattering vector is not null, `candidates` runs the layers at the Bragg
    angle, and a tuple with both layer relations there has forward model `hkl` -/
theorem fwd_of_request (ub : UBIn ℝ) (U : M3 ℝ) (hU : IsRot U) (hUB : ub.UB = M3.mul U ub.B) (hB : M3.det ub.B ≠ 0) (mode : Mode ℝ)
    (hkl : V3 ℝ) (wl : ℝ) (hwl : 0 < wl) (hne : 0 < V3.norm (M3.mulVec ub.B hkl))
    (hreach : wl * V3.norm (M3.mulVec ub.B hkl) / (4 * Real.pi) ≤ 1) :
    0 < V3.norm (M3.mulVec ub.UB hkl) ∧
    candidates ub mode hkl wl =
      layers ub mode (M3.mulVec ub.UB hkl) (Real.arcsin (wl * V3.norm (M3.mulVec ub.B hkl) / (4 * Real.pi))) ∧
    ∀ sol : Sol ℝ, LayerSpec (Real.arcsin (wl * V3.norm (M3.mulVec ub.B hkl) / (4 * Real.pi))) (V3.unit (M3.mulVec ub.UB hkl)) sol →
      C04.fwd ub.UB sol.1 sol.2.1 sol.2.2.1 sol.2.2.2.1 sol.2.2.2.2.1 sol.2.2.2.2.2 wl = hkl := by
  obtain ⟨hdet, hnUB⟩ := ub_facts ub U hU hUB hB hkl
  have h0 : 0 ≤ wl * V3.norm (M3.mulVec ub.B hkl) / (4 * Real.pi) := by positivity
  refine ⟨hnUB ▸ hne, ?_, fwd_of_layerSpec ub.UB hdet hkl (hnUB ▸ hne) wl _ hwl ?_⟩
  · rw [candidates_eq, ttheta_eq ub.B hB hkl wl hwl hne hreach]
    show layers ub mode _ (2 * _ / 2) = _
    rw [mul_div_cancel_left₀ _ two_ne_zero]
  · rw [hnUB, Real.sin_arcsin (neg_one_lt_zero.le.trans h0) hreach]

end
end C01

namespace C03
open M3 Solver Scalar PyOps C01
noncomputable section

/-- the Bragg angle carried by a detector position: `cos 2θ = cos δ · cos ν` -/
def thetaOf (delta nu : ℝ) : ℝ := Real.arccos (Real.cos delta * Real.cos nu) / 2
/-- the azimuth of the scattering plane carried by a detector position: `tan qaz = tan δ / sin ν` -/
def qazOf (delta nu : ℝ) : ℝ := atan2R (Real.sin delta) (Real.cos delta * Real.sin nu)

/-- every detector position satisfies the detector relation for its own `(θ, qaz)`: the scattered beam `(sin δ, cos δ cos ν, cos δ sin ν)` in
    spherical coordinates about the incident beam (on the beam axis `sin 2θ = 0` and the azimuth does not matter) -/
theorem detSpec_position (delta nu : ℝ) : DetSpec delta nu (qazOf delta nu) (thetaOf delta nu) := by
  have h2 : 2 * thetaOf delta nu = Real.arccos (Real.cos delta * Real.cos nu) := mul_div_cancel₀ _ two_ne_zero
  have hcos : Real.cos (2 * thetaOf delta nu) = Real.cos delta * Real.cos nu := by
    rw [h2, cos_arccos_of_abs_le (abs_mul_le_one (Real.abs_cos_le_one _) (Real.abs_cos_le_one _))]
  -- `(cos δ sin ν, sin δ)` has length `sin 2θ`, and qaz is its polar angle
  have hlen : Scalar.hypot (Real.cos delta * Real.sin nu) (Real.sin delta) = Real.sin (2 * thetaOf delta nu) :=
    hypot_eq_of_sq (by rw [h2]; exact Real.sin_nonneg_of_nonneg_of_le_pi (Real.arccos_nonneg _) (Real.arccos_le_pi _))
      (by rw [Real.sin_sq (2 * thetaOf delta nu), hcos]
          linear_combination Real.cos delta ^ 2 * Real.sin_sq_add_cos_sq nu + Real.sin_sq_add_cos_sq delta)
  exact ⟨by rw [← hlen]; exact (hypot_mul_sin_atan2 _ _).symm, by rw [← hlen]; exact (hypot_mul_cos_atan2 _ _).symm, hcos.symm⟩

/-- off the direct beam and off exact backscattering `θ` lies strictly between 0 and 90° -/
theorem detSpec_of_position (delta nu : ℝ) (hs : |Real.cos delta * Real.cos nu| < 1) :
    DetSpec delta nu (qazOf delta nu) (thetaOf delta nu) ∧ 0 < thetaOf delta nu ∧ thetaOf delta nu < Real.pi / 2 :=
  ⟨detSpec_position delta nu, half_pos (Real.arccos_pos.mpr (abs_lt.mp hs).2),
    div_lt_div_of_pos_right (Real.arccos_lt_pi.mpr (abs_lt.mp hs).1) two_pos⟩

/-- a position whose forward model is `hkl` turns `UB·hkl` into its own laboratory scattering vector -/
theorem decomposition (UB : M3 ℝ) (hdet : M3.det UB ≠ 0) (mu delta nu eta chi phi wl : ℝ) (hkl : V3 ℝ)
    (hf : C04.fwd UB mu delta nu eta chi phi wl = hkl) :
    M3.mulVec (C04.Z mu eta chi phi) (M3.mulVec UB hkl) = C04.qLab delta nu wl :=
  (C04.fwd_eq_iff UB hdet mu delta nu eta chi phi wl hkl).mp hf

/-- converse of `fwd_of_layerSpec`: the Bragg angle and both layer relations of a position whose forward model is `hkl` -/
theorem layerSpec_of_fwd (UB : M3 ℝ) (hdet : M3.det UB ≠ 0) (mu delta nu eta chi phi wl : ℝ) (hwl : 0 < wl) (hkl : V3 ℝ)
    (hf : C04.fwd UB mu delta nu eta chi phi wl = hkl) (hs : |Real.cos delta * Real.cos nu| < 1) :
    wl * V3.norm (M3.mulVec UB hkl) / (4 * Real.pi) = Real.sin (thetaOf delta nu) ∧
    M3.mulVec (C04.Z mu eta chi phi) (V3.unit (M3.mulVec UB hkl)) = qDir (thetaOf delta nu) (qazOf delta nu) := by
  obtain ⟨hD, hlo, hhi⟩ := detSpec_of_position delta nu hs
  have hZ := decomposition UB hdet mu delta nu eta chi phi wl hkl hf
  rw [qLab_of_DetSpec delta nu _ _ wl hD] at hZ
  have hsp : 0 < Real.sin (thetaOf delta nu) := Real.sin_pos_of_pos_of_lt_pi hlo (hhi.trans (half_lt_self Real.pi_pos))
  have hcpos : 0 < 2 * (2 * Real.pi / wl) * Real.sin (thetaOf delta nu) := by positivity
  -- `Z` is a rotation and `q̂` a unit vector: lengths give Bragg's law, directions the sample relation
  have hZrot := C04.isRot_Z mu eta chi phi
  constructor
  · rw [bragg_iff hwl, ← hZrot.norm, hZ, V3.norm_smul_pos _ hcpos, norm_qDir, mul_one]
  · rw [← hZrot.unit, hZ, V3.unit_smul hcpos, V3.unit_of_norm_one (norm_qDir _ _)]

/-- the Bragg angle the solver computes from the cell is the one the position carries -/
theorem bragg_of_fwd (UB : M3 ℝ) (hdet : M3.det UB ≠ 0) (mu delta nu eta chi phi wl : ℝ) (hwl : 0 < wl) (hkl : V3 ℝ)
    (hf : C04.fwd UB mu delta nu eta chi phi wl = hkl) (hs : |Real.cos delta * Real.cos nu| < 1) :
    wl * V3.norm (M3.mulVec UB hkl) / (4 * Real.pi) = Real.sin (thetaOf delta nu) :=
  (layerSpec_of_fwd UB hdet mu delta nu eta chi phi wl hwl hkl hf hs).1

/-- a request to the solver (`UB = U·B`) for the `hkl` of a position: the scattering vector is not null, `candidates` runs the layers at the
    position's own angle, and the position satisfies both layer relations at its own azimuth -/
theorem request_of_fwd (ub : UBIn ℝ) (U : M3 ℝ) (hU : IsRot U) (hUB : ub.UB = M3.mul U ub.B) (hB : M3.det ub.B ≠ 0) (mode : Mode ℝ)
    (hkl : V3 ℝ) (wl : ℝ) (hwl : 0 < wl) (hne : 0 < V3.norm (M3.mulVec ub.B hkl)) (mu delta nu eta chi phi : ℝ)
    (hf : C04.fwd ub.UB mu delta nu eta chi phi wl = hkl) (hs : |Real.cos delta * Real.cos nu| < 1) :
    0 < V3.norm (M3.mulVec ub.UB hkl) ∧
    candidates ub mode hkl wl = layers ub mode (M3.mulVec ub.UB hkl) (thetaOf delta nu) ∧
    DetSpec delta nu (qazOf delta nu) (thetaOf delta nu) ∧
    M3.mulVec (C04.Z mu eta chi phi) (V3.unit (M3.mulVec ub.UB hkl)) = qDir (thetaOf delta nu) (qazOf delta nu) := by
  obtain ⟨hdet, hnUB⟩ := ub_facts ub U hU hUB hB hkl
  obtain ⟨hD, hlo, hhi⟩ := detSpec_of_position delta nu hs
  obtain ⟨hbragg, hS⟩ := layerSpec_of_fwd ub.UB hdet mu delta nu eta chi phi wl hwl hkl hf hs
  rw [hnUB] at hbragg
  obtain ⟨hpos, hcand, _⟩ := fwd_of_request ub U hU hUB hB mode hkl wl hwl hne (hbragg ▸ Real.sin_le_one _)
  refine ⟨hpos, ?_, hD, hS⟩
  rw [hcand, hbragg, Real.arcsin_sin ((neg_neg_of_pos Real.pi_div_two_pos).le.trans hlo.le) hhi.le]

/-- what "the position is recovered" means: every one of the six angles modulo 2π -/
def SamePosition (sol : Sol ℝ) (mu delta nu eta chi phi : ℝ) : Prop :=
  SameAngle sol.1 mu ∧ SameAngle sol.2.1 delta ∧ SameAngle sol.2.2.1 nu ∧
  SameAngle sol.2.2.2.1 eta ∧ SameAngle sol.2.2.2.2.1 chi ∧ SameAngle sol.2.2.2.2.2 phi

end
end C03
