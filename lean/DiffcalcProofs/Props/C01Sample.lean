import DiffcalcProofs.Props.C01
import DiffcalcProofs.Lemmas.AxisRot
/-!
# C01 — exact soundness of the sample-angle layers (`calc_sample.py`, and the three-sample branch of `calc_func.py`)

For every branch: each tuple `(mu, eta, chi, phi)` it returns satisfies the sample relation of You (1999) eq. (18) exactly,
`Z(mu, eta, chi, phi) · ĥ = q̂(θ, qaz)` with `ĥ` the unit scattering direction in the phi frame (first column of `N_phi`),
provided the argument of the `asin`/`acos` was not clipped by `bound` (|x| ≤ 1; the clip only acts within 1e-7 above 1).
Together with `C01.composition` and the detector relation this gives `get_hkl(position) = hkl` exactly.

Every detector + two-sample branch solves the same problem in two steps.  With two circles given, the relation reads
`R_a(α)·g(β) = w` for unit vectors `g(β)`, `w`, where `β` is the first and `α`, about the axis `a`, the last unknown.  The component along
`a` does not see `α`: it is a linear equation `p₀ cos β + p₁ sin β = c`, whose root pair `asin`/`acos` of `c / hypot`, shifted by an
`atan2`, the code lists (`asin_branch_iff`, `acos_branch_iff`; `lin_cos_add_iff` where it writes the shift first).  The last circle `α` is
then the planar rotation about `a` that turns `g(β)` onto `w`, which `atan2` of the cross and the dot product delivers (`rotX_align`,
`rotY_align`, `rotZ_neg_align`); the four side goals of that lemma are where the code's spelling of the two products is compared with the
vectors.  The single-sample branches of the detector + reference family read three Euler angles off a rotation matrix instead; the
three-sample branch solves the y-component for the free axis and reads qaz off the result.
-/
namespace C01
open M3 Solver Scalar PyOps
noncomputable section

/-- the sample relation, eq. (18), on unit vectors -/
def SampleSpec (h : V3 ℝ) (theta qaz : ℝ) (t : STuple ℝ) : Prop :=
  M3.mulVec (C04.Z t.1 t.2.1 t.2.2.1 t.2.2.2) h = qDir theta qaz

/-- the two inner circles acting on `h`: `CHI · PHI · h` -/
def inner (chi phi : ℝ) (h : V3 ℝ) : V3 ℝ := M3.mulVec (M3.mul (rotY chi) (rotZ (-phi))) h
/-- the two outer circles undone on `q`: `ETAᵀ · MUᵀ · q` -/
def outerInv (mu eta : ℝ) (q : V3 ℝ) : V3 ℝ := M3.mulVec (M3.mul (M3.transpose (rotZ (-eta))) (M3.transpose (rotX mu))) q

/-! ## the sample relation split at each of the three joints of `Z = MU·ETA·CHI·PHI` -/

theorem isRot_muEta (mu eta : ℝ) : IsRot (M3.mul (rotX mu) (rotZ (-eta))) := (isRot_rotX _).mul (isRot_rotZ _)

/-- `Z = (MU·ETA)·(CHI·PHI)`: the sample relation is `CHI·PHI·h = ETAᵀ·MUᵀ·q` -/
theorem sampleSpec_iff_inner (mu eta chi phi : ℝ) (h q : V3 ℝ) :
    M3.mulVec (C04.Z mu eta chi phi) h = q ↔ inner chi phi h = outerInv mu eta q := by
  rw [show C04.Z mu eta chi phi = M3.mul (M3.mul (rotX mu) (rotZ (-eta))) (M3.mul (rotY chi) (rotZ (-phi))) by simp only [C04.Z, M3.mul_assoc'],
    M3.mulVec_mul, (isRot_muEta mu eta).mulVec_eq_iff, M3.transpose_mul]
  rfl

/-- `Z = MU·(ETA·(CHI·PHI))`: the sample relation is `ETA·(CHI·PHI·h) = MUᵀ·q` -/
theorem sampleSpec_iff_eta (mu eta chi phi : ℝ) (h q : V3 ℝ) :
    M3.mulVec (C04.Z mu eta chi phi) h = q ↔ M3.mulVec (rotZ (-eta)) (inner chi phi h) = M3.mulVec (M3.transpose (rotX mu)) q := by
  rw [show C04.Z mu eta chi phi = M3.mul (rotX mu) (M3.mul (rotZ (-eta)) (M3.mul (rotY chi) (rotZ (-phi)))) by simp only [C04.Z, M3.mul_assoc'],
    M3.mulVec_mul, (isRot_rotX mu).mulVec_eq_iff, M3.mulVec_mul]
  rfl

/-- `Z = MU·((ETA·CHI)·PHI)`: the sample relation is `ETA·CHI·(PHI·h) = MUᵀ·q` -/
theorem sampleSpec_iff_mid (mu eta chi phi : ℝ) (h q : V3 ℝ) :
    M3.mulVec (C04.Z mu eta chi phi) h = q ↔
      M3.mulVec (M3.mul (rotZ (-eta)) (rotY chi)) (M3.mulVec (rotZ (-phi)) h) = M3.mulVec (M3.transpose (rotX mu)) q := by
  rw [sampleSpec_iff_eta, inner, M3.mulVec_mul, M3.mulVec_mul]

theorem inner_eq (chi phi : ℝ) (h : V3 ℝ) : inner chi phi h = M3.mulVec (rotY chi) (M3.mulVec (rotZ (-phi)) h) := M3.mulVec_mul _ _ _

/-- `Z = MU·(ETA·(CHI·PHI))` on a vector, nothing moved to the other side -/
theorem Z_mulVec_nested (mu eta chi phi : ℝ) (h : V3 ℝ) :
    M3.mulVec (C04.Z mu eta chi phi) h = M3.mulVec (rotX mu) (M3.mulVec (rotZ (-eta)) (inner chi phi h)) := by
  simp only [C04.Z, inner, M3.mulVec_mul]

theorem inner_comps (chi phi : ℝ) (h : V3 ℝ) :
    inner chi phi h = ⟨(h.x * Real.cos phi + h.y * Real.sin phi) * Real.cos chi + h.z * Real.sin chi,
                       -h.x * Real.sin phi + h.y * Real.cos phi,
                       -(h.x * Real.cos phi + h.y * Real.sin phi) * Real.sin chi + h.z * Real.cos chi⟩ := by
  rw [inner_eq, rotZ_neg_mulVec, rotY_mulVec]

theorem outerInv_comps (mu eta : ℝ) (q : V3 ℝ) :
    outerInv mu eta q = ⟨q.x * Real.cos eta - (q.y * Real.cos mu + q.z * Real.sin mu) * Real.sin eta,
                         q.x * Real.sin eta + (q.y * Real.cos mu + q.z * Real.sin mu) * Real.cos eta,
                         -q.y * Real.sin mu + q.z * Real.cos mu⟩ := by
  rw [outerInv, M3.mulVec_mul, rotX_transpose_mulVec, rotZ_neg_transpose_mulVec]

theorem qDir_unit (theta qaz : ℝ) : (qDir theta qaz).x ^ 2 + (qDir theta qaz).y ^ 2 + (qDir theta qaz).z ^ 2 = 1 :=
  V3.sq_of_norm_one (norm_qDir theta qaz)

theorem outerInv_unit (mu eta : ℝ) (q : V3 ℝ) (hq : q.x ^ 2 + q.y ^ 2 + q.z ^ 2 = 1) :
    (outerInv mu eta q).x ^ 2 + (outerInv mu eta q).y ^ 2 + (outerInv mu eta q).z ^ 2 = 1 := by
  rw [outerInv, ← M3.transpose_mul, (isRot_muEta mu eta).transpose.sq_mulVec, hq]

theorem inner_unit (chi phi : ℝ) (h : V3 ℝ) (hh : h.x ^ 2 + h.y ^ 2 + h.z ^ 2 = 1) :
    (inner chi phi h).x ^ 2 + (inner chi phi h).y ^ 2 + (inner chi phi h).z ^ 2 = 1 := by
  rw [inner, ((isRot_rotY _).mul (isRot_rotZ _)).sq_mulVec, hh]

/-! ## set-up of the detector + two-sample branches -/

/-- first column of `F·THETA` is the unit scattering direction -/
theorem F_THETA_col0 (qaz theta : ℝ) :
    let M := M3.mul (Gen.y_rotation (qaz - Scalar.pi / Scalar.two)) (Gen.z_rotation (-theta))
    (⟨M.a00, M.a10, M.a20⟩ : V3 ℝ) = qDir theta qaz := by
  simp only [gen_y_rotation, gen_z_rotation, rs_pi, rs_two]
  ext <;> simp only [M3.mul, rotY, rotZ, qDir, rs_cos, rs_sin, rs_one, rs_zero, Real.cos_neg, Real.sin_neg, Real.cos_sub_pi_div_two,
    Real.sin_sub_pi_div_two] <;> ring

/-- first column of `A·F·THETA`, for any `A`: `A` applied to the scattering direction -/
theorem col0_mul_F_THETA (A : M3 ℝ) (qaz theta : ℝ) :
    M3.col (M3.mul (M3.mul A (Gen.y_rotation (qaz - Scalar.pi / Scalar.two))) (Gen.z_rotation (-theta))) 0 = M3.mulVec A (qDir theta qaz) := by
  rw [M3.mul_assoc', M3.col_mul]; exact congrArg _ (F_THETA_col0 qaz theta)

/-- first column of the matrix `V = ETAᵀ MUᵀ F THETA` used by the mu+eta branch -/
theorem V_muEta_col0 (mu eta qaz theta : ℝ) :
    let V := M3.mul (M3.mul (M3.mul (M3.transpose (Gen.rot_ETA eta)) (M3.transpose (Gen.rot_MU mu))) (Gen.y_rotation (qaz - Scalar.pi / Scalar.two)))
      (Gen.z_rotation (-theta))
    (⟨V.a00, V.a10, V.a20⟩ : V3 ℝ) = outerInv mu eta (qDir theta qaz) := by
  have := col0_mul_F_THETA (M3.mul (M3.transpose (Gen.rot_ETA eta)) (M3.transpose (Gen.rot_MU mu))) qaz theta
  rwa [(gen_rot_senses eta).2.2.2.2.1, (gen_rot_senses mu).1] at this

/-- first column of `PHI·N_phi` -/
theorem rot_PHI_mul_col0 (phi : ℝ) (N : M3 ℝ) :
    M3.col (M3.mul (Gen.rot_PHI phi) N) 0 =
      ⟨N.a00 * Real.cos phi + N.a10 * Real.sin phi, -N.a00 * Real.sin phi + N.a10 * Real.cos phi, N.a20⟩ := by
  rw [M3.col_mul, (gen_rot_senses phi).2.2.2.2.2, rotZ_neg_mulVec]; rfl

/-- first column of `CHI·PHI·N_phi` -/
theorem rot_CHI_PHI_mul_col0 (chi phi : ℝ) (N : M3 ℝ) :
    M3.col (M3.mul (M3.mul (Gen.rot_CHI chi) (Gen.rot_PHI phi)) N) 0 = inner chi phi ⟨N.a00, N.a10, N.a20⟩ := by
  rw [M3.col_mul, (gen_rot_senses chi).2.2.1, (gen_rot_senses phi).2.2.2.2.2]; rfl

/-- the divisor of the chi + phi branch, `sqrt(a²b² + c²)`, as the `hypot` whose polar angle the branch adds to its roots -/
theorem sqrt_chiPhi (a b c : ℝ) : Real.sqrt (a * a * (b * b) + c * c) = Scalar.hypot c (-a * b) := by
  simp only [Scalar.hypot, rs_sqrt]; congr 1; ring

/-- **mu + eta given** (`__calc_sample_con_mu_eta`): phi from the y-component of `CHI·(PHI·h) = ETAᵀ·MUᵀ·q`, chi the rotation about y -/
theorem sampleConMuEta_sound (mu eta qaz theta : ℝ) (N : M3 ℝ) (hN : N.a00 ^ 2 + N.a10 ^ 2 + N.a20 ^ 2 = 1)
    (hclip : |(-(outerInv mu eta (qDir theta qaz)).y) / Scalar.hypot N.a00 N.a10| ≤ 1) :
    AllOk (SampleSpec ⟨N.a00, N.a10, N.a20⟩ theta qaz) (sampleConMuEta mu eta qaz theta N) := by
  obtain ⟨v0, v1, v2⟩ := col0_entries (V_muEta_col0 mu eta qaz theta)
  unfold sampleConMuEta
  simp only [v0, v1, v2]
  refine allOk_guard fun hsm => ?_
  have hr := hypot_pos_of_not_small hsm
  rw [boundAsin_eq hclip, tryAssert_ok]
  refine allOk_ok (List.forall_mem_map.mpr fun phi hphi => ?_)
  have hy := (asin_branch_iff hr _ phi).mpr ⟨hclip, sameAngle_of_mem_pair hphi⟩
  rw [neg_neg] at hy
  refine (sampleSpec_iff_inner _ _ _ _ _ _).mpr ?_
  rw [inner_eq]
  refine rotY_align ?_ ?_ ?_ ?_
  · rw [(isRot_rotZ _).sq_mulVec, hN, outerInv_unit _ _ _ (qDir_unit _ _)]
  · rw [rotZ_neg_mulVec]; exact hy
  · rw [rotZ_neg_mulVec]; simp only [rs_cos, rs_sin]; ring
  · rw [rotZ_neg_mulVec]; simp only [rs_cos, rs_sin]; ring

/-- the `asin` argument of the mu+eta branch, for the tuple's own mu and eta, was not clipped -/
def ClipMuEta (N : M3 ℝ) (theta qaz : ℝ) (t : STuple ℝ) : Prop :=
  |(-(outerInv t.1 t.2.1 (qDir theta qaz)).y) / Scalar.hypot N.a00 N.a10| ≤ 1

theorem sampleConMuEta_sound' (mu eta qaz theta : ℝ) (N : M3 ℝ) (hN : N.a00 ^ 2 + N.a10 ^ 2 + N.a20 ^ 2 = 1) :
    AllOk (fun t => ClipMuEta N theta qaz t → SampleSpec ⟨N.a00, N.a10, N.a20⟩ theta qaz t) (sampleConMuEta mu eta qaz theta N) := by
  by_cases hc : |(-(outerInv mu eta (qDir theta qaz)).y) / Scalar.hypot N.a00 N.a10| ≤ 1
  · exact allOk_mono (sampleConMuEta_sound mu eta qaz theta N hN hc) (fun t ht _ => ht)
  · -- every tuple carries the given mu and eta, so its clip condition is the one that fails
    refine allOk_mono (C02.pt_sampleConMuEta mu eta qaz theta N) ?_
    rintro t ⟨h1, h2⟩ hclip
    rw [ClipMuEta, h1, h2] at hclip
    exact absurd hclip hc

/-- **omega + bisect, mu + bisect, eta + bisect**: they choose `(mu, eta)` pairs and hand over to the mu+eta branch -/
theorem sampleConOmegaBisect_sound (omega qaz theta : ℝ) (N : M3 ℝ) (hN : N.a00 ^ 2 + N.a10 ^ 2 + N.a20 ^ 2 = 1) :
    AllOk (fun t => ClipMuEta N theta qaz t → SampleSpec ⟨N.a00, N.a10, N.a20⟩ theta qaz t) (sampleConOmegaBisect omega qaz theta N) :=
  allOk_forM' _ _ fun me _ => sampleConMuEta_sound' me.1 me.2 qaz theta N hN

theorem sampleConMuBisect_sound (mu qaz theta : ℝ) (N : M3 ℝ) (hN : N.a00 ^ 2 + N.a10 ^ 2 + N.a20 ^ 2 = 1) :
    AllOk (fun t => ClipMuEta N theta qaz t → SampleSpec ⟨N.a00, N.a10, N.a20⟩ theta qaz t) (sampleConMuBisect mu qaz theta N) := by
  unfold sampleConMuBisect
  dsimp only
  split
  · exact allOk_nil
  · exact allOk_forM' _ _ fun e _ => sampleConMuEta_sound' mu e qaz theta N hN

theorem sampleConEtaBisect_sound (eta qaz theta : ℝ) (N : M3 ℝ) (hN : N.a00 ^ 2 + N.a10 ^ 2 + N.a20 ^ 2 = 1) :
    AllOk (fun t => ClipMuEta N theta qaz t → SampleSpec ⟨N.a00, N.a10, N.a20⟩ theta qaz t) (sampleConEtaBisect eta qaz theta N) := by
  have hrest : ∀ ms : List ℝ, AllOk (fun t => ClipMuEta N theta qaz t → SampleSpec ⟨N.a00, N.a10, N.a20⟩ theta qaz t)
      (forM' ms fun m => sampleConMuEta m eta qaz theta N) :=
    fun ms => allOk_forM' _ _ fun m _ => sampleConMuEta_sound' m eta qaz theta N hN
  exact allOk_ite (allOk_ite (hrest _) allOk_nil) (allOk_tryAssert fun _ _ => allOk_ite (hrest _) (hrest _))

/-- **chi + phi given** (`__calc_sample_con_chi_phi`): mu from the z-component of `ETA·(CHI·PHI·h) = MUᵀ·q`, eta the rotation about z -/
theorem sampleConChiPhi_sound (chi phi qaz theta : ℝ) (N : M3 ℝ) (hN : N.a00 ^ 2 + N.a10 ^ 2 + N.a20 ^ 2 = 1)
    (hr0 : Real.sin theta ≠ 0 ∨ -(Real.cos qaz) * Real.cos theta ≠ 0)
    (hclip : |(inner chi phi ⟨N.a00, N.a10, N.a20⟩).z / Real.sqrt (Real.cos qaz * Real.cos qaz * (Real.cos theta * Real.cos theta) + Real.sin theta * Real.sin theta)| ≤ 1) :
    AllOk (SampleSpec ⟨N.a00, N.a10, N.a20⟩ theta qaz) (sampleConChiPhi chi phi qaz theta N) := by
  obtain ⟨v0, v1, v2⟩ := col0_entries (rot_CHI_PHI_mul_col0 chi phi N)
  unfold sampleConChiPhi
  simp only [v0, v1, v2, rs_cos, rs_sin, rs_atan2, rs_pi]
  rw [pySqrt_eq (sumsq_nonneg _ _ _)]
  simp only [bind, Except.bind]
  rw [sqrt_chiPhi] at hclip ⊢
  have hr := hypot_pos_iff.mpr hr0
  rw [boundAsin_eq hclip, tryAssert_ok]
  refine allOk_forM' _ _ fun mu hmu => ?_
  have hz := (asin_branch_iff hr _ mu).mpr ⟨hclip, sameAngle_of_mem_pair hmu⟩
  refine allOk_guard fun _ => allOk_one ?_
  refine (sampleSpec_iff_eta _ _ _ _ _ _).mpr (rotZ_neg_align ?_ ?_ ?_ ?_)
  · rw [inner_unit chi phi ⟨N.a00, N.a10, N.a20⟩ hN, (isRot_rotX mu).transpose.sq_mulVec, qDir_unit]
  · rw [rotX_transpose_mulVec]; simp only [qDir]; linear_combination hz
  · rw [rotX_transpose_mulVec]; simp only [qDir]; ring
  · rw [rotX_transpose_mulVec]; simp only [qDir]; ring

/-- **mu + phi given** (`__calc_sample_con_mu_phi`): chi from the z-component of `ETA·(CHI·(PHI·h)) = MUᵀ·q`, eta the rotation about z -/
theorem sampleConMuPhi_sound (mu phi qaz theta : ℝ) (N : M3 ℝ) (hN : N.a00 ^ 2 + N.a10 ^ 2 + N.a20 ^ 2 = 1)
    (hE : N.a00 * Real.cos phi + N.a10 * Real.sin phi ≠ 0 ∨ N.a20 ≠ 0)
    (hclip : |(-(M3.mulVec (M3.transpose (rotX mu)) (qDir theta qaz)).z) / Scalar.hypot (N.a00 * Real.cos phi + N.a10 * Real.sin phi) N.a20| ≤ 1) :
    AllOk (SampleSpec ⟨N.a00, N.a10, N.a20⟩ theta qaz) (sampleConMuPhi mu phi qaz theta N) := by
  obtain ⟨v0, v1, v2⟩ := col0_entries (col0_mul_F_THETA (M3.transpose (rotX mu)) qaz theta)
  obtain ⟨e0, e1, e2⟩ := col0_entries (rot_PHI_mul_col0 phi N)
  unfold sampleConMuPhi
  simp only [(gen_rot_senses mu).1, v0, v1, v2, e0, e1, e2]
  have hr := hypot_pos_iff.mpr hE
  rw [boundAsin_eq hclip, tryAssert_ok]
  refine allOk_ok (List.forall_mem_map.mpr fun chi hchi => ?_)
  have hz := (asin_branch_iff hr _ chi).mpr ⟨hclip, sameAngle_of_mem_pair hchi⟩
  rw [neg_neg] at hz
  refine (sampleSpec_iff_eta _ _ _ _ _ _).mpr (rotZ_neg_align ?_ ?_ ?_ ?_)
  · rw [inner_unit chi phi ⟨N.a00, N.a10, N.a20⟩ hN, (isRot_rotX mu).transpose.sq_mulVec, qDir_unit]
  · rw [inner_comps]; linear_combination hz
  · rw [inner_comps]; rfl
  · rw [inner_comps]; rfl

/-- **mu + chi given** (`__calc_sample_con_mu_chi`): phi from the z-component of `ETA·(CHI·PHI·h) = MUᵀ·q`, eta the rotation about z -/
theorem sampleConMuChi_sound (mu chi qaz theta : ℝ) (N : M3 ℝ) (hN : N.a00 ^ 2 + N.a10 ^ 2 + N.a20 ^ 2 = 1)
    (hclip : |(N.a20 * Real.cos chi - (Real.cos mu * Real.cos qaz * Real.cos theta + Real.sin mu * Real.sin theta)) /
              (Real.sin chi * Scalar.hypot N.a10 N.a00)| ≤ 1)
    (hgen : Scalar.isSmall (Real.arccos ((N.a20 * Real.cos chi - (Real.cos mu * Real.cos qaz * Real.cos theta + Real.sin mu * Real.sin theta)) /
              (Real.sin chi * Scalar.hypot N.a10 N.a00))) = false) :
    AllOk (SampleSpec ⟨N.a00, N.a10, N.a20⟩ theta qaz) (sampleConMuChi mu chi qaz theta N) := by
  unfold sampleConMuChi
  simp only [rs_cos, rs_sin, rs_atan2]
  refine allOk_guard fun hschi => allOk_guard fun hAB => ?_
  have hr := hypot_pos_of_not_small hAB
  -- the code divides by `sin χ · hypot`: the phi roots solve `N₀₀ cos φ + N₁₀ sin φ = (N₂₀ cos χ − V₂₀) / sin χ`
  rw [div_mul_eq_div_div] at hclip hgen
  rw [div_mul_eq_div_div, boundAcos_eq hclip, tryAssert_ok, if_neg (Bool.eq_false_iff.mp hgen)]
  refine allOk_forM' _ _ fun phi hphi => allOk_guard fun _ => allOk_one ?_
  have ha := (eq_div_iff (not_small_ne_zero hschi)).mp ((acos_branch_iff hr _ phi).mpr ⟨hclip, sameAngle_of_mem_pair hphi⟩)
  refine (sampleSpec_iff_eta _ _ _ _ _ _).mpr (rotZ_neg_align ?_ ?_ ?_ ?_)
  · rw [inner_unit chi phi ⟨N.a00, N.a10, N.a20⟩ hN, (isRot_rotX mu).transpose.sq_mulVec, qDir_unit]
  · rw [inner_comps, rotX_transpose_mulVec]; simp only [qDir]; linear_combination -ha
  · rw [inner_comps, rotX_transpose_mulVec]; simp only [qDir]; ring
  · rw [inner_comps, rotX_transpose_mulVec]; simp only [qDir]; ring

/-- **eta + phi given** (`__calc_sample_con_eta_phi`, after the sign repair): chi from the x-component of `MU·(ETA·CHI·(PHI·h)) = q`, which mu does
    not touch; mu the rotation about x, which the code writes as a sum of two polar angles -/
theorem sampleConEtaPhi_sound (eta phi qaz theta : ℝ) (N : M3 ℝ) (hN : N.a00 ^ 2 + N.a10 ^ 2 + N.a20 ^ 2 = 1)
    (hce : Real.cos eta ≠ 0)
    (hrho : -(Real.sin theta) ≠ 0 ∨ Real.cos theta * Real.cos qaz ≠ 0)
    (hclip : |(Real.sin qaz * Real.cos theta / Real.cos eta - (N.a10 * Real.cos phi - N.a00 * Real.sin phi) * Real.tan eta) /
              Scalar.hypot N.a20 (N.a00 * Real.cos phi + N.a10 * Real.sin phi)| ≤ 1)
    (hgen : Scalar.isSmall (Real.arccos ((Real.sin qaz * Real.cos theta / Real.cos eta - (N.a10 * Real.cos phi - N.a00 * Real.sin phi) * Real.tan eta) /
              Scalar.hypot N.a20 (N.a00 * Real.cos phi + N.a10 * Real.sin phi))) = false) :
    AllOk (SampleSpec ⟨N.a00, N.a10, N.a20⟩ theta qaz) (sampleConEtaPhi eta phi qaz theta N) := by
  unfold sampleConEtaPhi
  simp only [rs_cos, rs_sin, rs_atan2, rs_tan]
  refine allOk_guard fun hXY => ?_
  have hr := hypot_pos_of_not_small hXY
  rw [boundAcos_eq hclip, tryAssert_ok, if_neg (Bool.eq_false_iff.mp hgen)]
  refine allOk_ok (List.forall_mem_map.mpr fun chi hchi => ?_)
  have hx := (lin_cos_add_iff hr _ chi).mpr ⟨hclip, sameAngle_of_mem_pair hchi⟩
  -- multiplied by `cos η` this is the x-component of the relation
  rw [mul_div_cancel₀ _ hr.ne', Real.tan_eq_sin_div_cos, ← mul_div_assoc, ← sub_div, eq_div_iff hce] at hx
  show M3.mulVec (C04.Z _ eta chi phi) _ = qDir theta qaz
  rw [Z_mulVec_nested]
  refine rotX_align_add (w := qDir theta qaz) ?_ ?_ ?_ ?_
  · rw [(isRot_rotZ _).sq_mulVec, inner_unit chi phi ⟨N.a00, N.a10, N.a20⟩ hN, qDir_unit]
  · rw [rotZ_neg_mulVec, inner_comps]; simp only [qDir]; linear_combination hx
  · rw [rotZ_neg_mulVec, inner_comps]; ring
  · rw [rotZ_neg_mulVec, inner_comps]; ring

/-- **eta + chi given** (`__calc_sample_con_eta_chi`): phi from the x-component of `MU·(ETA·CHI·PHI·h) = q`, mu the rotation about x -/
theorem sampleConEtaChi_sound (eta chi qaz theta : ℝ) (N : M3 ℝ) (hN : N.a00 ^ 2 + N.a10 ^ 2 + N.a20 ^ 2 = 1)
    (hrho : (1e-7 : ℝ) < Real.sin theta ^ 2 + (Real.cos qaz * Real.cos theta) ^ 2)
    (hclip : |(Real.cos theta * Real.sin qaz - N.a20 * Real.cos eta * Real.sin chi) /
              Scalar.hypot (N.a10 * Real.cos chi * Real.cos eta - N.a00 * Real.sin eta) (N.a00 * Real.cos chi * Real.cos eta + N.a10 * Real.sin eta)| ≤ 1)
    (hgen : Scalar.isSmall (Real.arccos ((Real.cos theta * Real.sin qaz - N.a20 * Real.cos eta * Real.sin chi) /
              Scalar.hypot (N.a10 * Real.cos chi * Real.cos eta - N.a00 * Real.sin eta) (N.a00 * Real.cos chi * Real.cos eta + N.a10 * Real.sin eta))) = false) :
    AllOk (SampleSpec ⟨N.a00, N.a10, N.a20⟩ theta qaz) (sampleConEtaChi eta chi qaz theta N) := by
  unfold sampleConEtaChi
  simp only [rs_cos, rs_sin, rs_atan2]
  refine allOk_guard fun hAB => ?_
  have hr := hypot_pos_of_not_small hAB
  rw [boundAcos_eq hclip, tryAssert_ok, if_neg (Bool.eq_false_iff.mp hgen)]
  refine allOk_forM' _ _ fun phi hphi => allOk_guard fun _ => allOk_one ?_
  have hx := (acos_branch_iff hr _ phi).mpr ⟨hclip, sameAngle_of_mem_pair hphi⟩
  show M3.mulVec (C04.Z _ eta chi phi) _ = qDir theta qaz
  rw [Z_mulVec_nested, mul_comm (Real.cos qaz)]
  refine rotX_align_sign (w := qDir theta qaz) ?_ ?_ (hrho.trans_eq (by simp only [qDir]; ring)) ?_ ?_ ?_
  · rw [(isRot_rotZ _).sq_mulVec, inner_unit chi phi ⟨N.a00, N.a10, N.a20⟩ hN, qDir_unit]
  · rw [rotZ_neg_mulVec, inner_comps]; simp only [qDir]; linear_combination hx
  · rw [rotZ_neg_mulVec, inner_comps]; ring
  · rw [rotZ_neg_mulVec, inner_comps]; ring
  · rw [rotZ_neg_mulVec, inner_comps]; ring

/-! ## detector + reference + one sample angle: the full orientation equation `Z · N_phi = N_lab` -/

/-- two proper rotations that agree on their first row and third column (crossing entry not ±1) are equal -/
theorem rot_eq_of_row0_col2 (A B : M3 ℝ) (hA : IsRot A) (hB : IsRot B) (hne : A.a02 ^ 2 ≠ 1)
    (h00 : A.a00 = B.a00) (h01 : A.a01 = B.a01) (h02 : A.a02 = B.a02) (h12 : A.a12 = B.a12) (h22 : A.a22 = B.a22) : A = B := by
  refine rot_eq_of_unit_row_col hA hB (p := ⟨1, 0, 0⟩) (c := ⟨0, 0, 1⟩) (by simp [V3.dot]) (by simp [V3.dot]) ?_ ?_ ?_
  · simp only [mulVec, transpose, h00, h01, h02, mul_zero]
  · simp only [mulVec, h02, h12, h22, mul_zero]
  · simpa only [V3.dot, mulVec, mul_zero, mul_one, zero_mul, one_mul, add_zero, zero_add] using hne

/-- two proper rotations that agree on their third row and second column (crossing entry not ±1) are equal -/
theorem rot_eq_of_row2_col1 (A B : M3 ℝ) (hA : IsRot A) (hB : IsRot B) (hne : A.a21 ^ 2 ≠ 1)
    (h20 : A.a20 = B.a20) (h21 : A.a21 = B.a21) (h22 : A.a22 = B.a22) (h01 : A.a01 = B.a01) (h11 : A.a11 = B.a11) : A = B := by
  refine rot_eq_of_unit_row_col hA hB (p := ⟨0, 0, 1⟩) (c := ⟨0, 1, 0⟩) (by simp [V3.dot]) (by simp [V3.dot]) ?_ ?_ ?_
  · simp only [mulVec, transpose, h20, h21, h22, mul_zero]
  · simp only [mulVec, h01, h11, h21, mul_zero]
  · simpa only [V3.dot, mulVec, mul_zero, mul_one, zero_mul, one_mul, add_zero, zero_add] using hne

/-- two proper rotations that agree on their second row and second column (crossing entry not ±1) are equal -/
theorem rot_eq_of_row1_col1 (A B : M3 ℝ) (hA : IsRot A) (hB : IsRot B) (hne : A.a11 ^ 2 ≠ 1)
    (h10 : A.a10 = B.a10) (h11 : A.a11 = B.a11) (h12 : A.a12 = B.a12) (h01 : A.a01 = B.a01) (h21 : A.a21 = B.a21) : A = B := by
  refine rot_eq_of_unit_row_col hA hB (p := ⟨0, 1, 0⟩) (c := ⟨0, 1, 0⟩) (by simp [V3.dot]) (by simp [V3.dot]) ?_ ?_ ?_
  · simp only [mulVec, transpose, h10, h11, h12, mul_zero]
  · simp only [mulVec, h01, h11, h21, mul_zero]
  · simpa only [V3.dot, mulVec, mul_zero, mul_one, zero_mul, one_mul, add_zero, zero_add] using hne

/-- the product of the three inner circles `ETA·CHI·PHI` -/
def ecp (eta chi phi : ℝ) : M3 ℝ := M3.mul (M3.mul (rotZ (-eta)) (rotY chi)) (rotZ (-phi))

theorem ecp_entries (eta chi phi : ℝ) : ecp eta chi phi =
    ⟨Real.cos eta * Real.cos chi * Real.cos phi - Real.sin eta * Real.sin phi, Real.cos eta * Real.cos chi * Real.sin phi + Real.sin eta * Real.cos phi, Real.cos eta * Real.sin chi,
     -Real.sin eta * Real.cos chi * Real.cos phi - Real.cos eta * Real.sin phi, -Real.sin eta * Real.cos chi * Real.sin phi + Real.cos eta * Real.cos phi, -Real.sin eta * Real.sin chi,
     -Real.sin chi * Real.cos phi, -Real.sin chi * Real.sin phi, Real.cos chi⟩ := by
  simp only [ecp, M3.mul, rotZ, rotY, rs_cos, rs_sin, rs_one, rs_zero, Real.cos_neg, Real.sin_neg]
  congr 1 <;> ring

/-- ZYZ Euler extraction: a proper rotation `V` with `V22 = cos χ`, `sin χ ≠ 0` and the azimuths read off its last row and column is `ETA·CHI·PHI` -/
theorem ecp_of_euler (V : M3 ℝ) (hV : IsRot V) (eta chi phi : ℝ) (hs : Real.sin chi ≠ 0)
    (h22 : V.a22 = Real.cos chi)
    (h20 : V.a20 = -Real.sin chi * Real.cos phi) (h21 : V.a21 = -Real.sin chi * Real.sin phi)
    (h02 : V.a02 = Real.cos eta * Real.sin chi) (h12 : V.a12 = -Real.sin eta * Real.sin chi) :
    ecp eta chi phi = V := by
  refine rot_eq_of_unit_row_col (((isRot_rotZ _).mul (isRot_rotY chi)).mul (isRot_rotZ _)) hV (p := ⟨0, 0, 1⟩) (c := ⟨0, 0, 1⟩) (by simp [V3.dot]) (by simp [V3.dot]) ?_ ?_ ?_
  · rw [ecp_entries]; simp only [mulVec, transpose, h20, h21, h22, mul_zero]
  · rw [ecp_entries]; simp only [mulVec, h02, h12, h22, mul_zero]
  · rw [ecp_entries]; simp only [V3.dot, mulVec]
    exact fun h => hs (pow_eq_zero_iff two_ne_zero |>.mp (by linear_combination Real.sin_sq_add_cos_sq chi - h))

/-- full sample relation: `Z · N_phi = N_lab` -/
def FullSpec (N_lab N_phi : M3 ℝ) (t : STuple ℝ) : Prop := M3.mul (C04.Z t.1 t.2.1 t.2.2.1 t.2.2.2) N_phi = N_lab

theorem Z_eq_mu_ecp (mu eta chi phi : ℝ) : C04.Z mu eta chi phi = M3.mul (rotX mu) (ecp eta chi phi) := by
  simp only [C04.Z, ecp, M3.mul_assoc']

/-- the orientation equation with mu moved to the other side: `ETA·CHI·PHI = MUᵀ·N_lab·N_phiᵀ` -/
theorem fullSpec_iff_ecp (mu eta chi phi : ℝ) (N_lab : M3 ℝ) {N_phi : M3 ℝ} (hp : IsRot N_phi) :
    FullSpec N_lab N_phi (mu, eta, chi, phi) ↔ ecp eta chi phi = M3.mul (M3.mul (M3.transpose (rotX mu)) N_lab) (M3.transpose N_phi) := by
  rw [FullSpec, Z_eq_mu_ecp, hp.mul_eq_iff', (isRot_rotX mu).mul_eq_iff, ← M3.mul_assoc']

/-- the first row and the last column of `Z = MU·ETA·CHI·PHI`: phi only enters the row, mu only the column -/
theorem Z_entries_row0_col2 (mu eta chi phi : ℝ) :
    (C04.Z mu eta chi phi).a00 = Real.cos eta * Real.cos chi * Real.cos phi - Real.sin eta * Real.sin phi ∧
    (C04.Z mu eta chi phi).a01 = Real.cos eta * Real.cos chi * Real.sin phi + Real.sin eta * Real.cos phi ∧
    (C04.Z mu eta chi phi).a02 = Real.cos eta * Real.sin chi ∧
    (C04.Z mu eta chi phi).a12 = -Real.cos mu * Real.sin eta * Real.sin chi - Real.sin mu * Real.cos chi ∧
    (C04.Z mu eta chi phi).a22 = -Real.sin mu * Real.sin eta * Real.sin chi + Real.cos mu * Real.cos chi := by
  rw [Z_eq_mu_ecp, ecp_entries]
  simp only [M3.mul, rotX, rs_cos, rs_sin, rs_one, rs_zero]
  refine ⟨?_, ?_, ?_, ?_, ?_⟩ <;> ring

/-- **mu given, detector + reference mode** (`__calc_sample_con_mu`, generic branch `sin χ ≠ 0`): every returned tuple satisfies `Z·N_phi = N_lab` -/
theorem sampleConMu_sound (mu : ℝ) (N_lab N_phi : M3 ℝ) (hl : IsRot N_lab) (hp : IsRot N_phi)
    (hgen : Scalar.isSmall (Real.sin (Real.arccos (M3.mul (M3.mul (M3.transpose (rotX mu)) N_lab) (M3.transpose N_phi)).a22)) = false) :
    AllOk (FullSpec N_lab N_phi) (sampleConMu mu N_lab N_phi) := by
  unfold sampleConMu
  rw [(gen_rot_senses mu).1, inv_rotX]
  set V := M3.mul (M3.mul (M3.transpose (rotX mu)) N_lab) (M3.transpose N_phi)
  have hV : IsRot V := ((isRot_rotX mu).transpose.mul hl).mul hp.transpose
  have h22 : |V.a22| ≤ 1 := abs_le_one_of_unit (x := V.a20) (z := V.a21) (by linear_combination hV.row_sq.2.2)
  refine allOk_catchAssert ?_
  rw [boundAcos_eq h22]
  simp only [bind, Except.bind, rs_sin, rs_atan2]
  rw [if_neg (Bool.eq_false_iff.mp hgen)]
  refine allOk_ok (List.forall_mem_map.mpr fun chi hchi => ?_)
  -- chi = ± acos V22, so `cos χ = V22` and `sin χ` is not small; the two azimuths are read off the circles of radius `|sin χ|` that
  -- the last row and the last column of the rotation `V` lie on
  have hcc := cos_of_mem_acos_pair h22 hchi
  have hsm := (isSmall_sin_congr (hcc.trans (cos_arccos_of_abs_le h22).symm)).trans hgen
  have hsc := Real.sin_sq_add_cos_sq chi
  rw [hcc] at hsc
  obtain ⟨p0, p1⟩ := atan2_sign_cs (X := -V.a20) (Y := -V.a21) hsm (by linear_combination hV.row_sq.2.2 - hsc)
  obtain ⟨e0, e1⟩ := atan2_sign_cs (X := V.a02) (Y := -V.a12) hsm (by linear_combination hV.col_sq.2.2 - hsc)
  simp only [mul_neg] at p0 p1 e0 e1
  simp only [neg_mul]
  exact (fullSpec_iff_ecp mu _ chi _ N_lab hp).mpr (ecp_of_euler V hV _ chi _ (not_small_ne_zero hsm) hcc.symm (by linear_combination p0)
    (by linear_combination p1) (by linear_combination -e0) (by linear_combination e1))

/-- the product of the three outer circles `MU·ETA·CHI` -/
def mec (mu eta chi : ℝ) : M3 ℝ := M3.mul (M3.mul (rotX mu) (rotZ (-eta))) (rotY chi)

theorem mec_entries (mu eta chi : ℝ) : mec mu eta chi =
    ⟨Real.cos eta * Real.cos chi, Real.sin eta, Real.cos eta * Real.sin chi,
     -Real.cos mu * Real.sin eta * Real.cos chi + Real.sin mu * Real.sin chi, Real.cos mu * Real.cos eta, -Real.cos mu * Real.sin eta * Real.sin chi - Real.sin mu * Real.cos chi,
     -Real.sin mu * Real.sin eta * Real.cos chi - Real.cos mu * Real.sin chi, Real.sin mu * Real.cos eta, -Real.sin mu * Real.sin eta * Real.sin chi + Real.cos mu * Real.cos chi⟩ := by
  simp only [mec, M3.mul, rotX, rotZ, rotY, rs_cos, rs_sin, rs_one, rs_zero, Real.cos_neg, Real.sin_neg]
  congr 1 <;> ring

/-- XZY Euler extraction: a proper rotation with `V01 = sin η`, `cos η ≠ 0` and the azimuths read off its first row and second column is `MU·ETA·CHI` -/
theorem mec_of_euler (V : M3 ℝ) (hV : IsRot V) (mu eta chi : ℝ) (hc : Real.cos eta ≠ 0)
    (h01 : V.a01 = Real.sin eta)
    (h00 : V.a00 = Real.cos eta * Real.cos chi) (h02 : V.a02 = Real.cos eta * Real.sin chi)
    (h11 : V.a11 = Real.cos mu * Real.cos eta) (h21 : V.a21 = Real.sin mu * Real.cos eta) :
    mec mu eta chi = V := by
  refine rot_eq_of_unit_row_col (((isRot_rotX mu).mul (isRot_rotZ _)).mul (isRot_rotY chi)) hV (p := ⟨1, 0, 0⟩) (c := ⟨0, 1, 0⟩) (by simp [V3.dot]) (by simp [V3.dot]) ?_ ?_ ?_
  · rw [mec_entries]; simp only [mulVec, transpose, h00, h01, h02, mul_zero]
  · rw [mec_entries]; simp only [mulVec, h01, h11, h21, mul_zero]
  · rw [mec_entries]; simp only [V3.dot, mulVec]
    exact fun h => hc (pow_eq_zero_iff two_ne_zero |>.mp (by linear_combination Real.sin_sq_add_cos_sq eta - h))

theorem Z_eq_mec_phi (mu eta chi phi : ℝ) : C04.Z mu eta chi phi = M3.mul (mec mu eta chi) (rotZ (-phi)) := by
  simp only [C04.Z, mec]

/-- the orientation equation with phi moved to the other side: `MU·ETA·CHI = N_lab·N_phiᵀ·PHIᵀ` -/
theorem fullSpec_iff_mec (mu eta chi phi : ℝ) (N_lab : M3 ℝ) {N_phi : M3 ℝ} (hp : IsRot N_phi) :
    FullSpec N_lab N_phi (mu, eta, chi, phi) ↔ mec mu eta chi = M3.mul (M3.mul N_lab (M3.transpose N_phi)) (M3.transpose (rotZ (-phi))) := by
  rw [FullSpec, Z_eq_mec_phi, hp.mul_eq_iff', (isRot_rotZ _).mul_eq_iff']

/-- **phi given, detector + reference mode** (`__calc_sample_con_phi`): every returned tuple satisfies `Z·N_phi = N_lab` -/
theorem sampleConPhi_sound (phi : ℝ) (N_lab N_phi : M3 ℝ) (hl : IsRot N_lab) (hp : IsRot N_phi) :
    AllOk (FullSpec N_lab N_phi) (sampleConPhi phi N_lab N_phi) := by
  unfold sampleConPhi
  dsimp only
  rw [(gen_rot_senses phi).2.2.2.2.2, hp.inv_eq]
  set V := M3.mul (M3.mul N_lab (M3.transpose N_phi)) (M3.transpose (rotZ (-phi)))
  have hV : IsRot V := (hl.mul hp.transpose).mul (isRot_rotZ _).transpose
  have h01 : |V.a01| ≤ 1 := abs_le_one_of_unit hV.row_sq.1
  rw [boundAsin_eq h01, tryAssert_ok]
  simp only [rs_cos, rs_atan2, rs_pi]
  refine allOk_guard fun hsmall => allOk_ok (List.forall_mem_map.mpr fun eta heta => ?_)
  -- eta = asin V01 or π − asin V01, so `sin η = V01` and `cos η` is not small; mu and chi are read off the circles of radius `|cos η|`
  -- that the second column and the first row of the rotation `V` lie on
  obtain ⟨hse, hce⟩ := sin_of_mem_asin_pair h01 heta
  have hsm := (isSmall_of_abs_eq hce).trans hsmall
  have hsc := Real.sin_sq_add_cos_sq eta
  rw [hse] at hsc
  obtain ⟨m0, m1⟩ := atan2_sign_cs (X := V.a11) (Y := V.a21) hsm (by linear_combination hV.col_sq.2.1 - hsc)
  obtain ⟨c0, c1⟩ := atan2_sign_cs (X := V.a00) (Y := V.a02) hsm (by linear_combination hV.row_sq.1 - hsc)
  exact (fullSpec_iff_mec _ eta _ phi N_lab hp).mpr (mec_of_euler V hV _ eta _ (not_small_ne_zero hsm) hse.symm (by linear_combination -c0)
    (by linear_combination -c1) (by linear_combination -m0) (by linear_combination -m1))

/-- a rotation with `cos η sin χ` in the corner of its first row and last column is `Z(mu, eta, chi, phi)` as soon as phi turns
    `(sin η, cos η cos χ)` onto the rest of the row and mu turns `(cos χ, −sin η sin χ)` onto the rest of the column -/
theorem Z_eq_of_row0_col2 {Zm : M3 ℝ} (hZ : IsRot Zm) {mu eta chi phi : ℝ} (h02 : Zm.a02 = Real.cos eta * Real.sin chi) (hne : Zm.a02 ^ 2 ≠ 1)
    (hm : Real.cos chi * Real.cos mu + -Real.sin eta * Real.sin chi * Real.sin mu = Zm.a22 ∧
      -Real.cos chi * Real.sin mu + -Real.sin eta * Real.sin chi * Real.cos mu = Zm.a12)
    (hp : Real.sin eta * Real.cos phi + Real.cos eta * Real.cos chi * Real.sin phi = Zm.a01 ∧
      -Real.sin eta * Real.sin phi + Real.cos eta * Real.cos chi * Real.cos phi = Zm.a00) :
    C04.Z mu eta chi phi = Zm := by
  obtain ⟨z00, z01, z02, z12, z22⟩ := Z_entries_row0_col2 mu eta chi phi
  exact rot_eq_of_row0_col2 _ _ (C04.isRot_Z mu eta chi phi) hZ (by rw [z02, ← h02]; exact hne) (by rw [z00]; linear_combination hp.2)
    (by rw [z01]; linear_combination hp.1) (z02.trans h02.symm) (by rw [z12]; linear_combination hm.2) (by rw [z22]; linear_combination hm.1)

/-- `__calc_sample_from_chi_eta`: with chi and eta consistent with the third entry of the first row, mu and phi are fixed by `atan2` and the
    whole goniometer rotation equals the required `Z` -/
theorem sampleFromChiEta_sound (chi eta : ℝ) (Zm : M3 ℝ) (hZ : IsRot Zm) (h02 : Zm.a02 = Real.cos eta * Real.sin chi) (hne : Zm.a02 ^ 2 ≠ 1) :
    AllOk (fun t : STuple ℝ => C04.Z t.1 t.2.1 t.2.2.1 t.2.2.2 = Zm) (sampleFromChiEta chi eta Zm) := by
  unfold sampleFromChiEta
  simp only [rs_sin, rs_cos, rs_atan2]
  refine allOk_guard fun _ => allOk_one ?_
  have hse := Real.sin_sq_add_cos_sq eta
  have hsx := Real.sin_sq_add_cos_sq chi
  have hrow := hZ.row_sq.1
  have hcol := hZ.col_sq.2.2
  rw [h02] at hrow hcol
  exact Z_eq_of_row0_col2 hZ h02 hne
    (planar_solve (by linear_combination (-1 : ℝ) * hcol + (Real.sin chi ^ 2) * hse + hsx) (by ring) (by ring))
    (planar_solve (by linear_combination (-1 : ℝ) * hrow + (Real.cos eta ^ 2) * hsx + hse) (by ring) (by ring))

/-- **chi given, detector + reference mode** (`__calc_sample_con_chi`) -/
theorem sampleConChi_sound (chi : ℝ) (N_lab N_phi : M3 ℝ) (hl : IsRot N_lab) (hp : IsRot N_phi)
    (hclip : |(M3.mul N_lab (M3.transpose N_phi)).a02 / Real.sin chi| ≤ 1)
    (hne : (M3.mul N_lab (M3.transpose N_phi)).a02 ^ 2 ≠ 1) :
    AllOk (FullSpec N_lab N_phi) (sampleConChi chi N_lab N_phi) := by
  unfold sampleConChi
  simp only [rs_sin]
  refine allOk_guard fun hs => ?_
  rw [boundAcos_eq hclip, tryAssert_ok]
  refine allOk_forM' _ _ fun eta heta => ?_
  exact allOk_mono (sampleFromChiEta_sound chi eta _ (hl.mul hp.transpose)
    (by rw [cos_of_mem_acos_pair hclip heta, div_mul_cancel₀ _ (not_small_ne_zero hs)]) hne)
    fun t ht => hp.mul_eq_iff'.mpr ht

/-- **eta given, detector + reference mode** (`__calc_sample_con_eta`) -/
theorem sampleConEta_sound (eta : ℝ) (N_lab N_phi : M3 ℝ) (hl : IsRot N_lab) (hp : IsRot N_phi)
    (hclip : |(M3.mul N_lab (M3.transpose N_phi)).a02 / Real.cos eta| ≤ 1)
    (hne : (M3.mul N_lab (M3.transpose N_phi)).a02 ^ 2 ≠ 1) :
    AllOk (FullSpec N_lab N_phi) (sampleConEta eta N_lab N_phi) := by
  unfold sampleConEta
  simp only [rs_cos, rs_pi]
  refine allOk_guard fun hs => ?_
  rw [boundAsin_eq hclip, tryAssert_ok]
  refine allOk_forM' _ _ fun chi hchi => ?_
  exact allOk_mono (sampleFromChiEta_sound chi eta _ (hl.mul hp.transpose)
    (by rw [(sin_of_mem_asin_pair hclip hchi).1, mul_div_cancel₀ _ (not_small_ne_zero hs)]) hne)
    fun t ht => hp.mul_eq_iff'.mpr ht

/-- the generic-branch side conditions of the four single-sample solvers (no clipping by `bound`, no gimbal lock) -/
def Samp1Generic (s : Samp1 ℝ) (N_lab N_phi : M3 ℝ) : Prop :=
  match s with
  | .mu v => Scalar.isSmall (Real.sin (Real.arccos (M3.mul (M3.mul (M3.transpose (rotX v)) N_lab) (M3.transpose N_phi)).a22)) = false
  | .phi _ => True
  | .eta v => |(M3.mul N_lab (M3.transpose N_phi)).a02 / Real.cos v| ≤ 1 ∧ (M3.mul N_lab (M3.transpose N_phi)).a02 ^ 2 ≠ 1
  | .chi v => |(M3.mul N_lab (M3.transpose N_phi)).a02 / Real.sin v| ≤ 1 ∧ (M3.mul N_lab (M3.transpose N_phi)).a02 ^ 2 ≠ 1

/-- **detector + reference + one sample angle** (`_calc_remaining_sample_angles`): whenever `_calc_N` delivers a proper rotation whose first
    column is the scattering direction, every returned tuple satisfies the full orientation equation, hence the sample relation -/
theorem remainingSample_sound (s : Samp1 ℝ) (theta alpha qaz : ℝ) (naz : Option ℝ) (N_phi : M3 ℝ) (hp : IsRot N_phi)
    (hN : ∀ N_lab, calcN (⟨Real.cos theta * Real.sin qaz, -(Real.sin theta), Real.cos theta * Real.cos qaz⟩ : V3 ℝ)
        (match naz with
          | none => (⟨0, -(Real.sin alpha), 0⟩ : V3 ℝ)
          | some nz => ⟨Real.cos alpha * Real.sin nz, -(Real.sin alpha), Real.cos alpha * Real.cos nz⟩) = .ok N_lab →
      IsRot N_lab ∧ (⟨N_lab.a00, N_lab.a10, N_lab.a20⟩ : V3 ℝ) = qDir theta qaz ∧ Samp1Generic s N_lab N_phi) :
    AllOk (SampleSpec ⟨N_phi.a00, N_phi.a10, N_phi.a20⟩ theta qaz) (remainingSample s theta alpha qaz naz N_phi) := by
  unfold remainingSample
  simp only [rs_cos, rs_sin, rs_zero]
  apply allOk_bind
  intro N_lab hcalc
  obtain ⟨hl, hcol, hgen⟩ := hN N_lab (by cases naz <;> exact hcalc)
  -- the first column of the orientation equation is the sample relation
  refine allOk_mono (P := FullSpec N_lab N_phi) ?_ fun t ht => (M3.col_mul _ N_phi 0).symm.trans ((congrArg (M3.col · 0) ht).trans hcol)
  cases s with
  | mu v => exact sampleConMu_sound v N_lab N_phi hl hp hgen
  | phi v => exact sampleConPhi_sound v N_lab N_phi hl hp
  | eta v => exact sampleConEta_sound v N_lab N_phi hl hp hgen.1 hgen.2
  | chi v => exact sampleConChi_sound v N_lab N_phi hl hp hgen.1 hgen.2

/-- generic-branch side conditions of the nine detector + two-sample solvers: the `asin`/`acos` argument is not clipped by `bound`, the
    coincident-root shortcut is not taken, and the divisions are by non-zero quantities -/
def Samp2DetGeneric (s : Samp2Det ℝ) (N : M3 ℝ) (theta qaz : ℝ) : Prop :=
  match s with
  | .muEta mu eta => |(-(outerInv mu eta (qDir theta qaz)).y) / Scalar.hypot N.a00 N.a10| ≤ 1
  | .omegaBisect _ => True
  | .muBisect _ => True
  | .etaBisect _ => True
  | .chiPhi chi phi => (Real.sin theta ≠ 0 ∨ -(Real.cos qaz) * Real.cos theta ≠ 0) ∧
      |(inner chi phi ⟨N.a00, N.a10, N.a20⟩).z / Real.sqrt (Real.cos qaz * Real.cos qaz * (Real.cos theta * Real.cos theta) + Real.sin theta * Real.sin theta)| ≤ 1
  | .muPhi mu phi => (N.a00 * Real.cos phi + N.a10 * Real.sin phi ≠ 0 ∨ N.a20 ≠ 0) ∧
      |(-(M3.mulVec (M3.transpose (rotX mu)) (qDir theta qaz)).z) / Scalar.hypot (N.a00 * Real.cos phi + N.a10 * Real.sin phi) N.a20| ≤ 1
  | .muChi mu chi =>
      |(N.a20 * Real.cos chi - (Real.cos mu * Real.cos qaz * Real.cos theta + Real.sin mu * Real.sin theta)) / (Real.sin chi * Scalar.hypot N.a10 N.a00)| ≤ 1 ∧
      Scalar.isSmall (Real.arccos ((N.a20 * Real.cos chi - (Real.cos mu * Real.cos qaz * Real.cos theta + Real.sin mu * Real.sin theta)) /
        (Real.sin chi * Scalar.hypot N.a10 N.a00))) = false
  | .etaPhi eta phi => Real.cos eta ≠ 0 ∧ (-(Real.sin theta) ≠ 0 ∨ Real.cos theta * Real.cos qaz ≠ 0) ∧
      |(Real.sin qaz * Real.cos theta / Real.cos eta - (N.a10 * Real.cos phi - N.a00 * Real.sin phi) * Real.tan eta) /
        Scalar.hypot N.a20 (N.a00 * Real.cos phi + N.a10 * Real.sin phi)| ≤ 1 ∧
      Scalar.isSmall (Real.arccos ((Real.sin qaz * Real.cos theta / Real.cos eta - (N.a10 * Real.cos phi - N.a00 * Real.sin phi) * Real.tan eta) /
        Scalar.hypot N.a20 (N.a00 * Real.cos phi + N.a10 * Real.sin phi))) = false
  | .etaChi eta chi => (1e-7 : ℝ) < Real.sin theta ^ 2 + (Real.cos qaz * Real.cos theta) ^ 2 ∧
      |(Real.cos theta * Real.sin qaz - N.a20 * Real.cos eta * Real.sin chi) /
        Scalar.hypot (N.a10 * Real.cos chi * Real.cos eta - N.a00 * Real.sin eta) (N.a00 * Real.cos chi * Real.cos eta + N.a10 * Real.sin eta)| ≤ 1 ∧
      Scalar.isSmall (Real.arccos ((Real.cos theta * Real.sin qaz - N.a20 * Real.cos eta * Real.sin chi) /
        Scalar.hypot (N.a10 * Real.cos chi * Real.cos eta - N.a00 * Real.sin eta) (N.a00 * Real.cos chi * Real.cos eta + N.a10 * Real.sin eta))) = false

/-- **detector + two sample angles, all nine branches** (`_calc_sample_con_two_sample_and_detector`): on the generic branch every returned tuple
    whose own `asin` argument was not clipped satisfies the sample relation exactly -/
theorem twoSampleDetector_sound (s : Samp2Det ℝ) (qaz theta : ℝ) (N : M3 ℝ) (hN : N.a00 ^ 2 + N.a10 ^ 2 + N.a20 ^ 2 = 1)
    (hgen : Samp2DetGeneric s N theta qaz) :
    AllOk (fun t => ClipMuEta N theta qaz t → SampleSpec ⟨N.a00, N.a10, N.a20⟩ theta qaz t) (twoSampleDetector s qaz theta N) := by
  cases s with
  | muEta mu eta => exact allOk_mono (sampleConMuEta_sound mu eta qaz theta N hN hgen) fun _ ht _ => ht
  | omegaBisect om => exact sampleConOmegaBisect_sound om qaz theta N hN
  | muBisect mu => exact sampleConMuBisect_sound mu qaz theta N hN
  | etaBisect eta => exact sampleConEtaBisect_sound eta qaz theta N hN
  | chiPhi chi phi => exact allOk_mono (sampleConChiPhi_sound chi phi qaz theta N hN hgen.1 hgen.2) fun _ ht _ => ht
  | muPhi mu phi => exact allOk_mono (sampleConMuPhi_sound mu phi qaz theta N hN hgen.1 hgen.2) fun _ ht _ => ht
  | muChi mu chi => exact allOk_mono (sampleConMuChi_sound mu chi qaz theta N hN hgen.1 hgen.2) fun _ ht _ => ht
  | etaPhi eta phi => exact allOk_mono (sampleConEtaPhi_sound eta phi qaz theta N hN hgen.1 hgen.2.1 hgen.2.2.1 hgen.2.2.2) fun _ ht _ => ht
  | etaChi eta chi => exact allOk_mono (sampleConEtaChi_sound eta chi qaz theta N hN hgen.1 hgen.2.1 hgen.2.2) fun _ ht _ => ht

/-! ## three sample angles given (`calc_func.py`): the fourth from the y-component, qaz read off the result -/

theorem Z_mulVec (mu eta chi phi : ℝ) (h : V3 ℝ) : M3.mulVec (C04.Z mu eta chi phi) h =
    ⟨(Real.cos eta * Real.cos chi * Real.cos phi - Real.sin eta * Real.sin phi) * h.x + (Real.cos eta * Real.cos chi * Real.sin phi + Real.sin eta * Real.cos phi) * h.y
        + Real.cos eta * Real.sin chi * h.z,
     Real.cos mu * ((-Real.sin eta * Real.cos chi * Real.cos phi - Real.cos eta * Real.sin phi) * h.x + (-Real.sin eta * Real.cos chi * Real.sin phi + Real.cos eta * Real.cos phi) * h.y
        - Real.sin eta * Real.sin chi * h.z) - Real.sin mu * (-Real.sin chi * Real.cos phi * h.x - Real.sin chi * Real.sin phi * h.y + Real.cos chi * h.z),
     Real.sin mu * ((-Real.sin eta * Real.cos chi * Real.cos phi - Real.cos eta * Real.sin phi) * h.x + (-Real.sin eta * Real.cos chi * Real.sin phi + Real.cos eta * Real.cos phi) * h.y
        - Real.sin eta * Real.sin chi * h.z) + Real.cos mu * (-Real.sin chi * Real.cos phi * h.x - Real.sin chi * Real.sin phi * h.y + Real.cos chi * h.z)⟩ := by
  rw [Z_mulVec_nested, inner_comps, rotZ_neg_mulVec, rotX_mulVec]
  congr 1 <;> ring

theorem normalised_unit (h : V3 ℝ) (hh : V3.norm h = 1) : V3.normalised h = h := by
  rw [V3.normalised_eq_unit, V3.unit_of_norm_one hh]

/-- what `A`, `B`, `C` of `__get_last_sample_angle` are for: `B cos v + A sin v − C` is the distance of the y-component of `Z·ĥ`, with the
    free axis at `v`, from `−sin θ` -/
theorem lastABC_spec {free : Free} {mu eta chi phi theta A B C : ℝ} {h : V3 ℝ} (hh : V3.norm h = 1)
    (hABC : lastABC free mu eta chi phi h theta = (A, B, C)) (v : ℝ) :
    (M3.mulVec (C04.Z (assign free mu eta chi phi v).1 (assign free mu eta chi phi v).2.1 (assign free mu eta chi phi v).2.2.1
      (assign free mu eta chi phi v).2.2.2) h).y + Real.sin theta = B * Real.cos v + A * Real.sin v - C := by
  unfold lastABC at hABC
  rw [normalised_unit h hh] at hABC
  rw [Z_mulVec]
  -- one polynomial identity per free axis: `hABC` spells out `A`, `B`, `C`, and the y-component of `Z·h` is linear in `cos v`, `sin v`
  cases free
  all_goals
    simp only [assign, Prod.mk.injEq, rs_cos, rs_sin] at hABC ⊢
    obtain ⟨rfl, rfl, rfl⟩ := hABC
    ring

/-- `__get_last_sample_angle`: every returned value of the free axis puts the y-component of `Z·ĥ` at `−sin θ` -/
theorem lastSampleAngle_sound (free : Free) (mu eta chi phi : ℝ) (h : V3 ℝ) (hh : V3.norm h = 1) (theta : ℝ)
    (hclip : |(lastABC free mu eta chi phi h theta).2.2 / Scalar.hypot (lastABC free mu eta chi phi h theta).1 (lastABC free mu eta chi phi h theta).2.1| ≤ 1)
    (hgen : Scalar.isSmall (Real.arccos ((lastABC free mu eta chi phi h theta).2.2 /
      Scalar.hypot (lastABC free mu eta chi phi h theta).1 (lastABC free mu eta chi phi h theta).2.1)) = false)
    (l : List ℝ) (hl : lastSampleAngle free mu eta chi phi h theta = .ok l) :
    ∀ v ∈ l, (M3.mulVec (C04.Z (assign free mu eta chi phi v).1 (assign free mu eta chi phi v).2.1 (assign free mu eta chi phi v).2.2.1
      (assign free mu eta chi phi v).2.2.2) h).y = -Real.sin theta := by
  rcases hABC : lastABC free mu eta chi phi h theta with ⟨A, B, C⟩
  rw [hABC] at hclip hgen
  refine (?_ : AllOk _ _) l hl
  unfold lastSampleAngle
  rw [hABC]
  refine allOk_guard fun hAB => ?_
  have hr := hypot_pos_of_not_small hAB
  simp only [boundAcos_eq hclip, bind, Except.bind, rs_atan2, hgen, Bool.false_eq_true, if_false, pure, Except.pure]
  -- the two values are the roots of `B cos v + A sin v = C`
  refine allOk_ok fun v hv => ?_
  linear_combination lastABC_spec hh hABC v + (acos_branch_iff hr C v).mpr ⟨hclip, sameAngle_of_mem_pair hv⟩

/-- `__get_qaz_value`: when the y-component of `Z·ĥ` is `−sin θ`, the qaz read off its x- and z-components completes the sample relation -/
theorem qazValue_sound (mu eta chi phi : ℝ) (h : V3 ℝ) (hh : V3.norm h = 1) (theta : ℝ) (hct : Scalar.isSmall (Real.cos theta) = false)
    (hy : (M3.mulVec (C04.Z mu eta chi phi) h).y = -Real.sin theta) :
    M3.mulVec (C04.Z mu eta chi phi) h = qDir theta (qazValue mu eta chi phi h theta) := by
  set w := M3.mulVec (C04.Z mu eta chi phi) h with hw
  have hwn : w.x ^ 2 + w.y ^ 2 + w.z ^ 2 = 1 := ((C04.isRot_Z mu eta chi phi).sq_mulVec h).trans (V3.sq_of_norm_one hh)
  -- the code's two polynomials are the x- and z-component of `Z·ĥ`
  have hq : qazValue mu eta chi phi h theta = atan2R (Scalar.sign (Real.cos theta) * w.x) (Scalar.sign (Real.cos theta) * w.z) := by
    unfold qazValue
    rw [normalised_unit h hh, hw, Z_mulVec]
    simp only [rs_cos, rs_sin, rs_atan2]
    congr 2 <;> ring
  obtain ⟨hc, hs⟩ := atan2_sign_cs (X := w.z) (Y := w.x) hct
    (by rw [hy] at hwn; linear_combination hwn - Real.sin_sq_add_cos_sq theta)
  rw [hq]
  ext
  · exact hs.symm
  · exact hy
  · exact hc.symm

/-- **three sample angles given** (`_calc_three_sample`, sample part): with the fourth angle from `__get_last_sample_angle` and qaz from
    `__get_qaz_value`, the sample relation holds exactly (the detector angles then come from `detFromQaz`, `threeSample_detector_sound`) -/
theorem threeSample_sample_sound (free : Free) (mu eta chi phi : ℝ) (h : V3 ℝ) (hh : V3.norm h = 1) (theta : ℝ)
    (hct : Scalar.isSmall (Real.cos theta) = false)
    (hclip : |(lastABC free mu eta chi phi h theta).2.2 / Scalar.hypot (lastABC free mu eta chi phi h theta).1 (lastABC free mu eta chi phi h theta).2.1| ≤ 1)
    (hgen : Scalar.isSmall (Real.arccos ((lastABC free mu eta chi phi h theta).2.2 /
      Scalar.hypot (lastABC free mu eta chi phi h theta).1 (lastABC free mu eta chi phi h theta).2.1)) = false)
    (l : List ℝ) (hl : lastSampleAngle free mu eta chi phi h theta = .ok l) :
    ∀ v ∈ l, let t := assign free mu eta chi phi v
      SampleSpec h theta (qazValue t.1 t.2.1 t.2.2.1 t.2.2.2 h theta) t :=
  fun v hv => qazValue_sound _ _ _ _ h hh theta hct (lastSampleAngle_sound free mu eta chi phi h hh theta hclip hgen l hl v hv)

/-! ## names this property's check refers to; each restates a fact proved elsewhere -/

theorem rot_mul_transpose {r : M3 ℝ} (h : IsRot r) : M3.mul r (M3.transpose r) = M3.id := h.mul_transpose

theorem inv_of_isRot' {r : M3 ℝ} (h : IsRot r) : M3.inv r = M3.transpose r := h.inv_eq

theorem isRot_entries_le {V : M3 ℝ} (hV : IsRot V) : V.a20 ^ 2 + V.a21 ^ 2 + V.a22 ^ 2 = 1 ∧ V.a02 ^ 2 + V.a12 ^ 2 + V.a22 ^ 2 = 1 :=
  ⟨hV.row_sq.2.2, hV.col_sq.2.2⟩

theorem normalised_eq_unit (v : V3 ℝ) (hv : 0 < V3.norm v) : V3.normalised v = V3.unit v := V3.normalised_eq_unit v

theorem unit_of_norm_one (v : V3 ℝ) (hv : V3.norm v = 1) : V3.unit v = v := V3.unit_of_norm_one hv

theorem toRad_toDeg' (x : ℝ) : Scalar.toRad (Scalar.toDeg x) = x := scalar_toRad_toDeg x

theorem sampleSpec_of_inner (mu eta chi phi : ℝ) (h q : V3 ℝ) (hin : inner chi phi h = outerInv mu eta q) :
    M3.mulVec (C04.Z mu eta chi phi) h = q := (sampleSpec_iff_inner mu eta chi phi h q).mpr hin

theorem hypot_sq (x y : ℝ) : x ^ 2 + y ^ 2 = Scalar.hypot x y ^ 2 := (sq_hypot x y).symm

theorem hypot_pos_of (x y : ℝ) (h : x ≠ 0 ∨ y ≠ 0) : 0 < Scalar.hypot x y := hypot_pos_iff.mpr h

theorem atan2_cs (X Y R : ℝ) (hR : 0 < R) (h : X ^ 2 + Y ^ 2 = R ^ 2) :
    Real.cos (atan2R Y X) = X / R ∧ Real.sin (atan2R Y X) = Y / R := by
  obtain ⟨hc, hs⟩ := polar_of_sq hR.le h
  exact ⟨eq_div_of_mul_eq hR.ne' (by rw [mul_comm, hc]), eq_div_of_mul_eq hR.ne' (by rw [mul_comm, hs])⟩

theorem chi_solve (a h2 v0 v2 : ℝ) (hD : a ^ 2 + h2 ^ 2 = v0 ^ 2 + v2 ^ 2) :
    a * Real.cos (atan2R (h2 * v0 - a * v2) (h2 * v2 + a * v0)) + h2 * Real.sin (atan2R (h2 * v0 - a * v2) (h2 * v2 + a * v0)) = v0 ∧
    -a * Real.sin (atan2R (h2 * v0 - a * v2) (h2 * v2 + a * v0)) + h2 * Real.cos (atan2R (h2 * v0 - a * v2) (h2 * v2 + a * v0)) = v2 :=
  planar_solve hD (by ring) (by ring)

theorem rot_solve (a b u v : ℝ) (hD : a ^ 2 + b ^ 2 = u ^ 2 + v ^ 2) :
    a * Real.cos (atan2R (u * b - v * a) (u * a + v * b)) + b * Real.sin (atan2R (u * b - v * a) (u * a + v * b)) = u ∧
    -a * Real.sin (atan2R (u * b - v * a) (u * a + v * b)) + b * Real.cos (atan2R (u * b - v * a) (u * a + v * b)) = v :=
  planar_solve hD rfl rfl

/-- the two roots `s + ε`, `π − s + ε` (`ε = atan2(p1, p0)`) of `−p0 sin t + p1 cos t = −r sin s` -/
theorem asin_roots (p0 p1 r s t : ℝ) (hr : 0 < r) (hr2 : p0 ^ 2 + p1 ^ 2 = r ^ 2)
    (ht : t = s + atan2R p1 p0 ∨ t = Real.pi - s + atan2R p1 p0) :
    -p0 * Real.sin t + p1 * Real.cos t = -(r * Real.sin s) := by
  rw [lin_sin, hypot_eq_of_sq hr.le hr2]
  rcases ht with rfl | rfl
  · rw [add_sub_cancel_right]
  · rw [add_sub_cancel_right, Real.sin_pi_sub]

/-- the two roots `c + ε`, `−c + ε` (`ε = atan2(p1, p0)`) of `p0 cos t + p1 sin t = r cos c` -/
theorem acos_roots (p0 p1 r c t : ℝ) (hr : 0 < r) (hr2 : p0 ^ 2 + p1 ^ 2 = r ^ 2)
    (ht : t = c + atan2R p1 p0 ∨ t = -c + atan2R p1 p0) :
    p0 * Real.cos t + p1 * Real.sin t = r * Real.cos c := by
  rw [lin_cos, hypot_eq_of_sq hr.le hr2]
  rcases ht with rfl | rfl
  · rw [add_sub_cancel_right]
  · rw [add_sub_cancel_right, Real.cos_neg]

theorem boundAsin_ok {x v : ℝ} (hx : |x| ≤ 1) (h : boundAsin x = .ok v) : v = Real.arcsin x ∧ Real.sin v = x := by
  rw [boundAsin_eq hx, Except.ok.injEq] at h
  exact ⟨h.symm, h ▸ sin_arcsin_of_abs_le hx⟩

theorem boundAcos_ok {x v : ℝ} (hx : |x| ≤ 1) (h : boundAcos x = .ok v) : v = Real.arccos x ∧ Real.cos v = x := by
  rw [boundAcos_eq hx, Except.ok.injEq] at h
  exact ⟨h.symm, h ▸ cos_arccos_of_abs_le hx⟩

end
end C01
