import Diffcalc.Model.PlaneAngle
import DiffcalcProofs.Props.C06
/-!
# C06 — interplanar angles are those of crystallography

`get_hkl_plane_angle(h₁, h₂) = acos( h₁ᵀ G* h₂ / √(h₁ᵀ G* h₁ · h₂ᵀ G* h₂) )` in degrees, where `G* = BᵀB / 4π²` is the reciprocal metric
tensor, i.e. the inverse of the direct metric tensor `G` of `(a, b, c, α, β, γ)` (`Gstar_G`, from `BtB_G`).
-/
namespace C06
open M3 Scalar PyOps
noncomputable section

/-- the reciprocal metric tensor of the cell, as the code holds it: `BᵀB / 4π²` -/
def Cell.Gstar (k : Cell) : M3 ℝ := M3.smul (1 / (4 * Real.pi ^ 2)) (M3.mul (M3.transpose k.B) k.B)

/-- `G* · G = 1`: the tensor used below IS the inverse of the direct metric tensor -/
theorem Cell.Gstar_G (k : Cell) : M3.mul k.Gstar k.G = M3.id := by
  unfold Cell.Gstar
  rw [M3.smul_mul, k.BtB_G, M3.smul_smul, one_div_mul_cancel (by positivity), M3.one_smul]

/-- the bilinear form `uᵀ M v` -/
def quad (M : M3 ℝ) (u v : V3 ℝ) : ℝ := V3.dot u (M3.mulVec M v)

theorem dot_B_B (k : Cell) (u v : V3 ℝ) : V3.dot (M3.mulVec k.B u) (M3.mulVec k.B v) = 4 * Real.pi ^ 2 * quad k.Gstar u v := by
  unfold quad Cell.Gstar
  rw [M3.smul_mulVec, V3.dot_smul_right, M3.dot_mulVec_mulVec, ← mul_assoc, mul_one_div_cancel (by positivity), one_mul]

theorem norm_B (k : Cell) (u : V3 ℝ) : V3.norm (M3.mulVec k.B u) = 2 * Real.pi * Real.sqrt (quad k.Gstar u u) := by
  unfold V3.norm V3.normSq
  simp only [rs_sqrt]
  rw [dot_B_B, show (4 : ℝ) * Real.pi ^ 2 = (2 * Real.pi) ^ 2 by ring, Real.sqrt_mul (by positivity), Real.sqrt_sq (by positivity)]

/-- **C06, interplanar angle**: for planes with non-zero reciprocal vectors the angle returned is the crystallographic one -/
theorem planeAngle_crystallographic (k : Cell) (h1 h2 : V3 ℝ)
    (hn1 : 0 < V3.norm (M3.mulVec k.B h1)) (hn2 : 0 < V3.norm (M3.mulVec k.B h2)) :
    CrystalModel.planeAngle k.B h1 h2 =
      .ok (Scalar.toDeg (Real.arccos (quad k.Gstar h1 h2 / (Real.sqrt (quad k.Gstar h1 h1) * Real.sqrt (quad k.Gstar h2 h2))))) := by
  -- over `ℝ` (`x / 0 = 0`) the closed form needs neither hypothesis: they say when Python does not divide by zero
  unfold CrystalModel.planeAngle
  rw [angleBetween_eq, V3.dot_unit, dot_B_B, norm_B, norm_B]
  -- the factor `4π²` of `dot_B_B` cancels the two `2π` of `norm_B`
  rw [mul_mul_mul_comm, show 2 * Real.pi * (2 * Real.pi) = 4 * Real.pi ^ 2 by ring, mul_div_mul_left _ _ (by positivity)]
end
end C06
