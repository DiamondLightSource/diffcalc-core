import DiffcalcProofs.Props.C03Reference
import DiffcalcProofs.Props.C01Assembly
/-!
# C03 — completeness end to end: reference constraint + two sample angles (42 mode shapes)

`refSamp2_complete`: a position `P` whose forward model is the requested `hkl` and which satisfies the orientation equation of the reference
modes, `Z · N_phi · PSI(ψ₀)ᵀ · THETAᵀ = F(qaz)`, for a value `ψ₀` among those the reference layer tries, and which carries the mode's two sample
values, is among the candidates, every angle modulo 2π.  For a `psi` constraint `ψ₀` is the constrained value (`refSamp2_psi_complete`).  For the
other six: with `N_phi` the triad of the scattering direction `Q̂` and the reference direction `n̂`, the elevation of the laboratory reference
direction obeys `sin α = cos τ sin θ − cos θ sin τ cos ψ` (`alpha_of_refSpec`), so `cos ψ` is the quotient `__calc_psi` takes the `acos` of and the
pair `± acos` it yields contains ψ modulo 2π (`calcPsi_complete`): `refSamp2_complete'`.
-/
namespace C03
open M3 Solver Scalar PyOps C01
noncomputable section

/-- the candidates `_calc_two_sample_and_reference` builds from the sample-layer tuples -/
def candFor (rs : List (RTuple ℝ)) (theta : ℝ) : List (Sol ℝ) :=
  rs.flatMap fun r => (detFromQaz r.1 theta).map fun x => (r.2.2.1, x.1, x.2.1, r.2.2.2.1, r.2.2.2.2.1, r.2.2.2.2.2)

theorem twoSampleAndReference_eq (s : Samp2Ref ℝ) (h n : V3 ℝ) (theta psi : ℝ) (N : M3 ℝ) (rs : List (RTuple ℝ))
    (hN : calcN h n = .ok N) (hrs : twoSampleReference s psi theta N = .ok rs) :
    twoSampleAndReference s h n theta psi = .ok (candFor rs theta) := by
  unfold twoSampleAndReference candFor
  simp only [bind, Except.bind, hN, hrs, pure, Except.pure]

theorem refSamp2_complete (ub : UBIn ℝ) (U : M3 ℝ) (hU : IsRot U) (hUB : ub.UB = M3.mul U ub.B) (hB : M3.det ub.B ≠ 0)
    (ref : RefCon ℝ) (s : Samp2Ref ℝ) (hkl : V3 ℝ) (wl : ℝ) (hwl : 0 < wl)
    (hne : 0 < V3.norm (M3.mulVec ub.B hkl))
    (mu delta nu eta chi phi : ℝ)
    (hf : C04.fwd ub.UB mu delta nu eta chi phi wl = hkl)
    (hs : |Real.cos delta * Real.cos nu| < 1)
    (hcd : Scalar.isSmall (Real.cos delta) = false)
    (n : V3 ℝ) (alpha tau : ℝ)
    (hnat : nphiAlphaTau ub ref (M3.mulVec ub.UB hkl) (thetaOf delta nu) = .ok (n, alpha, tau))
    (hn : 0 < V3.norm n) (hx : (1e-7 : ℝ) < V3.norm (V3.cross (V3.unit (M3.mulVec ub.UB hkl)) (V3.unit n)))
    (psi0 q0 : ℝ) (hpsi : some psi0 ∈ psiList ref alpha (thetaOf delta nu) tau)
    (hS : ∀ N, calcN (M3.mulVec ub.UB hkl) n = .ok N → RefSpec (Vref psi0 (thetaOf delta nu) N) (q0, psi0, mu, eta, chi, phi))
    (hc : CarriesRef s mu eta chi phi)
    (hr : ∀ N, calcN (M3.mulVec ub.UB hkl) n = .ok N → Samp2RefRegular s psi0 (thetaOf delta nu) N q0 mu eta chi phi)
    (hsib : ∀ p, some p ∈ psiList ref alpha (thetaOf delta nu) tau → ∃ l, twoSampleAndReference s (M3.mulVec ub.UB hkl) n (thetaOf delta nu) p = .ok l) :
    ∃ l, candidates ub (.refSamp2 ref s) hkl wl = .ok l ∧ ∃ sol ∈ l, SamePosition sol mu delta nu eta chi phi := by
  obtain ⟨hpos, hcand, hD, hqhat⟩ := request_of_fwd ub U hU hUB hB (.refSamp2 ref s) hkl wl hwl hne mu delta nu eta chi phi hf hs
  obtain ⟨_, hlo, hhi⟩ := detSpec_of_position delta nu hs
  have hct : Real.cos (thetaOf delta nu) ≠ 0 :=
    (Real.cos_pos_of_mem_Ioo ⟨(neg_neg_of_pos Real.pi_div_two_pos).trans hlo, hhi⟩).ne'
  obtain ⟨N, hN, -, hNrot, hNcol⟩ := calcN_ok _ n hpos hn hx
  -- the azimuth of the orientation equation is the position's own: both say where `Z` takes the scattering direction
  have hq : SameAngle q0 (qazOf delta nu) := by
    have hS1 := refSpec_sampleSpec psi0 (thetaOf delta nu) N _ (hS N hN)
    unfold SampleSpec at hS1
    simp only [hNcol, hqhat] at hS1
    exact sameAngle_symm (qDir_inj _ _ _ hct hS1)
  obtain ⟨rs, hrs, t, ht, tq, _, tmu, teta, tchi, tphi⟩ :=
    twoSampleReference_complete s psi0 (thetaOf delta nu) N hNrot q0 mu eta chi phi (hS N hN) hc (hr N hN)
  -- the detector layer at the azimuth the sample layer hands on
  obtain ⟨d, hd, hd1, hd2, _⟩ := detFromQaz_complete delta nu t.1 (thetaOf delta nu)
    (detSpec_congr _ _ _ _ _ (sameAngle_symm (SameAngle.trans tq hq)) hD) hcd
  rw [hcand]
  unfold layers
  refine yields_bind hnat (yields_forM' (fun x hxm => ?_) hpsi ?_)
  · cases x with
    | none => exact ⟨[], rfl⟩
    | some p => exact hsib p hxm
  · show Yields _ (twoSampleAndReference s _ n _ psi0)
    rw [twoSampleAndReference_eq s _ n _ psi0 N rs hN hrs]
    exact yields_ok (List.mem_flatMap.mpr ⟨t, ht, List.mem_map.mpr ⟨d, hd, rfl⟩⟩) ⟨tmu, hd1, hd2, teta, tchi, tphi⟩

/-- **psi + two sample angles: completeness end to end** (six mode shapes): the psi value tried is the constrained one -/
theorem refSamp2_psi_complete (ub : UBIn ℝ) (U : M3 ℝ) (hU : IsRot U) (hUB : ub.UB = M3.mul U ub.B) (hB : M3.det ub.B ≠ 0)
    (v : ℝ) (s : Samp2Ref ℝ) (hkl : V3 ℝ) (wl : ℝ) (hwl : 0 < wl)
    (hne : 0 < V3.norm (M3.mulVec ub.B hkl))
    (mu delta nu eta chi phi : ℝ)
    (hf : C04.fwd ub.UB mu delta nu eta chi phi wl = hkl)
    (hs : |Real.cos delta * Real.cos nu| < 1)
    (hcd : Scalar.isSmall (Real.cos delta) = false)
    (n : V3 ℝ) (alpha tau : ℝ)
    (hnat : nphiAlphaTau ub (.psi v) (M3.mulVec ub.UB hkl) (thetaOf delta nu) = .ok (n, alpha, tau))
    (hn : 0 < V3.norm n) (hx : (1e-7 : ℝ) < V3.norm (V3.cross (V3.unit (M3.mulVec ub.UB hkl)) (V3.unit n)))
    (q0 : ℝ)
    (hS : ∀ N, calcN (M3.mulVec ub.UB hkl) n = .ok N → RefSpec (Vref v (thetaOf delta nu) N) (q0, v, mu, eta, chi, phi))
    (hc : CarriesRef s mu eta chi phi)
    (hr : ∀ N, calcN (M3.mulVec ub.UB hkl) n = .ok N → Samp2RefRegular s v (thetaOf delta nu) N q0 mu eta chi phi) :
    ∃ l, candidates ub (.refSamp2 (.psi v) s) hkl wl = .ok l ∧ ∃ sol ∈ l, SamePosition sol mu delta nu eta chi phi := by
  apply refSamp2_complete ub U hU hUB hB (.psi v) s hkl wl hwl hne mu delta nu eta chi phi hf hs hcd n alpha tau hnat hn hx v q0
    (List.mem_singleton_self (some v)) hS hc hr
  intro p hp
  -- the only psi tried is v: its candidate list exists because every layer succeeds on the solution
  cases List.mem_singleton.mp hp
  obtain ⟨N, hN, -, hNrot, -⟩ := calcN_ok _ n ((ub_facts ub U hU hUB hB hkl).2 ▸ hne) hn hx
  obtain ⟨rs, hrs, _⟩ := twoSampleReference_complete s v (thetaOf delta nu) N hNrot q0 mu eta chi phi (hS N hN) hc (hr N hN)
  exact ⟨_, twoSampleAndReference_eq s _ n _ v N rs hN hrs⟩

/-! ## the reference layer: the psi values `__calc_psi` yields contain the psi of the position -/

/-- decomposition of a unit vector along the triad of `(Q, n)`: `n = (Q·n) Q + |Q×n| e₂` -/
theorem triad_decomposition (Q n : V3 ℝ) (hQ : V3.dot Q Q = 1) (p3 : 0 < V3.norm (V3.cross Q n)) :
    n = M3.mulVec (C07.triadMat Q n) ⟨V3.dot Q n, V3.norm (V3.cross Q n), 0⟩ := by
  have hQ1 : V3.norm Q = 1 := V3.norm_of_dot_self_one hQ
  -- (Q×n)×Q = n − (Q·n) Q and has the norm of Q×n
  have hnorm : V3.norm (V3.cross (V3.cross Q n) Q) = V3.norm (V3.cross Q n) := by rw [V3.norm_cross_cross_self, hQ1, mul_one]
  have hne := p3.ne'
  unfold C07.triadMat
  rw [V3.unit_of_norm_one hQ1, ← V3.smul_inv_norm, hnorm, V3.cross_cross_left, hQ]
  ext <;> simp only [M3.mulVec, M3.ofCols, V3.sub, V3.smul] <;> field_simp <;> ring

/-- the elevation of the laboratory reference direction of a solution of the orientation equation -/
theorem alpha_of_refSpec (Q n : V3 ℝ) (hQ : V3.dot Q Q = 1) (p3 : 0 < V3.norm (V3.cross Q n))
    (psi theta q mu eta chi phi : ℝ) (hS : RefSpec (Vref psi theta (C07.triadMat Q n)) (q, psi, mu, eta, chi, phi)) :
    (M3.mulVec (C04.Z mu eta chi phi) n).y =
      -(Real.sin theta * V3.dot Q n) + Real.cos theta * V3.norm (V3.cross Q n) * Real.cos psi := by
  conv_lhs => rw [triad_decomposition Q n hQ p3, refSpec_mulVec hS, rotX_mulVec, rotZ_neg_mulVec]
  simp only [Fq, M3.mulVec]
  ring

/-- **the psi values `__calc_psi` yields (qaz / naz not supplied) contain every psi with the right cosine** -/
theorem calcPsi_complete (alpha theta tau psi : ℝ)
    (hst : Scalar.isSmall (Real.sin tau) = false) (hct : Scalar.isSmall (Real.cos theta) = false) (hsth : Scalar.isSmall (Real.sin theta) = false)
    (hrel : Real.sin alpha = Real.cos tau * Real.sin theta - Real.cos theta * Real.sin tau * Real.cos psi)
    (hgen : Scalar.isSmall (Real.arccos ((Real.cos tau * Real.sin theta - Real.sin alpha) / Real.cos theta / Real.sin tau)) = false) :
    ∃ psi0, some psi0 ∈ calcPsi alpha theta tau none ∧ SameAngle psi0 psi := by
  have h1 := not_small_ne_zero hst
  have h2 := not_small_ne_zero hct
  have hx : (Real.cos tau * Real.sin theta - Real.sin alpha) / Real.cos theta / Real.sin tau = Real.cos psi := by
    rw [hrel]; field_simp; ring
  have habs : |(Real.cos tau * Real.sin theta - Real.sin alpha) / Real.cos theta / Real.sin tau| ≤ 1 := by rw [hx]; exact Real.abs_cos_le_one _
  obtain ⟨psi0, hmem, hsame⟩ := exists_mem_pair (acos_roots_complete psi (Real.cos psi) (Real.abs_cos_le_one _) rfl)
  unfold calcPsi
  simp only [rs_sin, rs_cos, hst, hct, hsth, Bool.false_eq_true, if_false, bound_id habs, pyAcos_eq habs, hgen, rs_zero]
  rw [hx]
  exact ⟨psi0, by simpa using hmem, hsame⟩

theorem Vref_congr (psi psi' theta : ℝ) (N : M3 ℝ) (h : SameAngle psi psi') : Vref psi theta N = Vref psi' theta N := by
  unfold Vref
  simp only [gen_x_rotation, rotX, rs_cos, rs_sin, h.1, h.2]

/-- **reference + two sample angles, end to end, without assuming anything about `__calc_psi`**: for the six reference constraints other
    than psi.  What remains assumed of the reference layer is that the alpha it derives from the constraint is the elevation of `P`'s laboratory
    reference direction (`hα`) — for an `alpha` constraint that is the constraint itself. -/
theorem refSamp2_complete' (ub : UBIn ℝ) (U : M3 ℝ) (hU : IsRot U) (hUB : ub.UB = M3.mul U ub.B) (hB : M3.det ub.B ≠ 0)
    (ref : RefCon ℝ) (hnotpsi : ∀ v, ref ≠ .psi v) (s : Samp2Ref ℝ) (hkl : V3 ℝ) (wl : ℝ) (hwl : 0 < wl)
    (hne : 0 < V3.norm (M3.mulVec ub.B hkl))
    (mu delta nu eta chi phi : ℝ)
    (hf : C04.fwd ub.UB mu delta nu eta chi phi wl = hkl)
    (hs : |Real.cos delta * Real.cos nu| < 1)
    (hcd : Scalar.isSmall (Real.cos delta) = false)
    (n : V3 ℝ) (alpha tau : ℝ)
    (hnat : nphiAlphaTau ub ref (M3.mulVec ub.UB hkl) (thetaOf delta nu) = .ok (n, alpha, tau))
    (hn : 0 < V3.norm n) (hx : (1e-7 : ℝ) < V3.norm (V3.cross (V3.unit (M3.mulVec ub.UB hkl)) (V3.unit n)))
    (psiP q0 : ℝ)
    (hS : ∀ N, calcN (M3.mulVec ub.UB hkl) n = .ok N → RefSpec (Vref psiP (thetaOf delta nu) N) (q0, psiP, mu, eta, chi, phi))
    (hα : Real.sin alpha = -(M3.mulVec (C04.Z mu eta chi phi) (V3.unit n)).y)
    (hst : Scalar.isSmall (Real.sin tau) = false) (hct : Scalar.isSmall (Real.cos (thetaOf delta nu)) = false)
    (hsth : Scalar.isSmall (Real.sin (thetaOf delta nu)) = false)
    (hgen : Scalar.isSmall (Real.arccos ((Real.cos tau * Real.sin (thetaOf delta nu) - Real.sin alpha) / Real.cos (thetaOf delta nu) / Real.sin tau)) = false)
    (hc : CarriesRef s mu eta chi phi)
    (hr : ∀ N psi', calcN (M3.mulVec ub.UB hkl) n = .ok N → SameAngle psi' psiP → Samp2RefRegular s psi' (thetaOf delta nu) N q0 mu eta chi phi)
    (hsib : ∀ p, some p ∈ psiList ref alpha (thetaOf delta nu) tau → ∃ l, twoSampleAndReference s (M3.mulVec ub.UB hkl) n (thetaOf delta nu) p = .ok l) :
    ∃ l, candidates ub (.refSamp2 ref s) hkl wl = .ok l ∧ ∃ sol ∈ l, SamePosition sol mu delta nu eta chi phi := by
  have hpos : 0 < V3.norm (M3.mulVec ub.UB hkl) := (ub_facts ub U hU hUB hB hkl).2 ▸ hne
  have hQd := V3.dot_unit_self hpos
  have hnd := V3.dot_unit_self hn
  -- tau is the angle between the two unit vectors
  have hcost := nphiAlphaTau_tau ub ref _ _ n alpha tau hnat
  have hsint : Real.sin tau = V3.norm (V3.cross (V3.unit (M3.mulVec ub.UB hkl)) (V3.unit n)) := by
    rw [nphiAlphaTau_tau_eq ub ref _ _ n alpha tau hnat, V3.smul_inv_norm, V3.smul_inv_norm, V3.sin_arccos_dot hQd hnd]
  -- P's alpha from the orientation equation
  have hy := alpha_of_refSpec _ _ hQd (lt_trans (by norm_num) hx) psiP (thetaOf delta nu) q0 mu eta chi phi
    (hS _ (calcN_eq _ n hpos hn hx))
  obtain ⟨psi0, hmem, hsame⟩ := calcPsi_complete alpha (thetaOf delta nu) tau psiP hst hct hsth (by rw [hα, hy, hcost, hsint]; ring) hgen
  have hlist : some psi0 ∈ psiList ref alpha (thetaOf delta nu) tau := by
    unfold psiList
    cases ref with
    | psi v => exact absurd rfl (hnotpsi v)
    | _ => exact hmem
  refine refSamp2_complete ub U hU hUB hB ref s hkl wl hwl hne mu delta nu eta chi phi hf hs hcd n alpha tau hnat hn hx psi0 q0 hlist
    (fun N' hN' => ?_) hc (fun N' hN' => hr N' psi0 hN' hsame) hsib
  rw [Vref_congr psi0 psiP _ N' hsame]
  exact hS N' hN'

end
end C03
