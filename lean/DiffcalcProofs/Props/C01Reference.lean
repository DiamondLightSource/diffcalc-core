import DiffcalcProofs.Props.C01Sample
/-!
# C01 — exact soundness of the reference + two-sample branches (`calc_reference.py`)

Every tuple `(qaz, psi, mu, eta, chi, phi)` a reference branch returns satisfies the orientation equation
`Z(mu, eta, chi, phi) · N_phi · PSIᵀ · THETAᵀ = F(qaz)` exactly.

With `V_ref = N_phi·PSIᵀ·THETAᵀ` a rotation, the equation `Z·V_ref = F(qaz)` is used in three arrangements, one per pair of branches
(`refSpec_iff_emf`, `refSpec_iff_Zt`, `refSpec_iff_fmec`).  In each the known matrix and the unknown one share a row and a column that
cross in an entry holding one unknown angle only; that entry gives the first unknown by a pair of roots, the rest of the row and of the
column give the other two by an `atan2` each, and a rotation is fixed by one row and one column (`M3.rot_eq_of_row_col`; entry by entry
`rot_eq_of_row2_col1`, `rot_eq_of_row1_col1` in `C01Sample`).
-/
namespace C01
open M3 Solver Scalar PyOps
noncomputable section

/-! ## reference + two sample angles (`calc_reference.py`): `Z · N_phi · PSIᵀ · THETAᵀ = F(qaz)` -/

/-- `F(qaz) = Ry(qaz − π/2)` -/
def Fq (qaz : ℝ) : M3 ℝ := ⟨Real.sin qaz, 0, -Real.cos qaz, 0, 1, 0, Real.cos qaz, 0, Real.sin qaz⟩

theorem Fq_eq (qaz : ℝ) : rotY (qaz - Real.pi / 2) = Fq qaz := by
  simp only [rotY, Fq, rs_cos, rs_sin, rs_one, rs_zero, Real.cos_sub_pi_div_two, Real.sin_sub_pi_div_two, neg_neg]

theorem isRot_Fq (qaz : ℝ) : IsRot (Fq qaz) := by rw [← Fq_eq]; exact isRot_rotY _

/-- the orientation equation of the reference modes: with `V = N_phi·PSIᵀ·THETAᵀ`, `Z·V = F(qaz)` -/
def RefSpec (Vr : M3 ℝ) (t : RTuple ℝ) : Prop :=
  M3.mul (C04.Z t.2.2.1 t.2.2.2.1 t.2.2.2.2.1 t.2.2.2.2.2) Vr = Fq t.1

/-- `ETAᵀ·MUᵀ·F(qaz)` -/
def emf (mu eta qaz : ℝ) : M3 ℝ := M3.mul (M3.mul (M3.transpose (rotZ (-eta))) (M3.transpose (rotX mu))) (Fq qaz)

/-- its third row and second column: `(cos μ, 0)` turned by qaz and by eta, with `−sin μ` where the two cross -/
theorem emf_entries (mu eta qaz : ℝ) :
    (emf mu eta qaz).a21 = -Real.sin mu ∧ (emf mu eta qaz).a20 = Real.cos mu * Real.cos qaz ∧ (emf mu eta qaz).a22 = Real.cos mu * Real.sin qaz ∧
    (emf mu eta qaz).a01 = -(Real.cos mu * Real.sin eta) ∧ (emf mu eta qaz).a11 = Real.cos mu * Real.cos eta := by
  simp only [emf, Fq, M3.mul, M3.transpose, rotX, rotZ, rs_cos, rs_sin, rs_one, rs_zero, Real.cos_neg, Real.sin_neg]
  refine ⟨by ring, by ring, by ring, by ring, by ring⟩

theorem isRot_emf (mu eta qaz : ℝ) : IsRot (emf mu eta qaz) :=
  ((isRot_rotZ _).transpose.mul (isRot_rotX _).transpose).mul (isRot_Fq qaz)

/-- `CHI·PHI` -/
def cp (chi phi : ℝ) : M3 ℝ := M3.mul (rotY chi) (rotZ (-phi))
theorem isRot_cp (chi phi : ℝ) : IsRot (cp chi phi) := (isRot_rotY _).mul (isRot_rotZ _)

/-- `F(qaz)ᵀ·MU·ETA·CHI` -/
def fmec (qaz mu eta chi : ℝ) : M3 ℝ := M3.mul (M3.transpose (Fq qaz)) (mec mu eta chi)
theorem isRot_mec (mu eta chi : ℝ) : IsRot (mec mu eta chi) := ((isRot_rotX _).mul (isRot_rotZ _)).mul (isRot_rotY _)
theorem isRot_fmec (qaz mu eta chi : ℝ) : IsRot (fmec qaz mu eta chi) := (isRot_Fq _).transpose.mul (isRot_mec _ _ _)

theorem transpose_mul3 (a b c : M3 ℝ) : M3.transpose (M3.mul (M3.mul a b) c) = M3.mul (M3.transpose c) (M3.mul (M3.transpose b) (M3.transpose a)) := by
  rw [M3.transpose_mul, M3.transpose_mul]

theorem isRot_Vref (psi theta : ℝ) (N : M3 ℝ) (hN : IsRot N) : IsRot (Vref psi theta N) := by
  unfold Vref
  rw [gen_x_rotation, gen_z_rotation]
  exact (hN.mul (isRot_rotX _).transpose).mul (isRot_rotZ _).transpose

/-- the matrix of the mu + phi and eta + phi branches, `THETA·PSI·N_phi⁻¹·PHIᵀ`, is `V_refᵀ·PHIᵀ` -/
theorem Vref2_eq (phi psi theta : ℝ) {N : M3 ℝ} (hN : IsRot N) :
    Vref2 phi psi theta N = M3.mul (M3.transpose (Vref psi theta N)) (M3.transpose (rotZ (-phi))) := by
  unfold Vref Vref2
  rw [gen_x_rotation, gen_z_rotation, (gen_rot_senses phi).2.2.2.2.2, hN.inv_eq, transpose_mul3]
  simp only [M3.transpose_transpose, M3.mul_assoc']

theorem isRot_Vref2 (phi psi theta : ℝ) (N : M3 ℝ) (hN : IsRot N) : IsRot (Vref2 phi psi theta N) := by
  rw [Vref2_eq phi psi theta hN]
  exact (isRot_Vref psi theta N hN).transpose.mul (isRot_rotZ _).transpose

/-! ### the orientation equation in the three arrangements the six branches use -/

/-- solved for `V_ref` (mu + eta, chi + eta, chi + mu given) -/
theorem refSpec_iff_Zt {Vr : M3 ℝ} {qaz psi mu eta chi phi : ℝ} :
    RefSpec Vr (qaz, psi, mu, eta, chi, phi) ↔ Vr = M3.mul (M3.transpose (C04.Z mu eta chi phi)) (Fq qaz) :=
  (C04.isRot_Z mu eta chi phi).mul_eq_iff

/-- the known circles on the left (chi + phi given) -/
theorem refSpec_iff_emf {Vr : M3 ℝ} {qaz psi mu eta chi phi : ℝ} :
    RefSpec Vr (qaz, psi, mu, eta, chi, phi) ↔ M3.mul (cp chi phi) Vr = emf mu eta qaz := by
  rw [refSpec_iff_Zt, (isRot_cp chi phi).mul_eq_iff]
  simp only [C04.Z, cp, emf, M3.mul_assoc', M3.transpose_mul]

/-- transposed, with phi moved to the known side (mu + phi, eta + phi given): `(Z·V_ref)ᵀ = V_refᵀ·PHIᵀ·(MU·ETA·CHI)ᵀ` -/
theorem refSpec_iff_fmec {N : M3 ℝ} (hN : IsRot N) {qaz psi theta mu eta chi phi : ℝ} :
    RefSpec (Vref psi theta N) (qaz, psi, mu, eta, chi, phi) ↔ Vref2 phi psi theta N = fmec qaz mu eta chi := by
  show M3.mul (C04.Z mu eta chi phi) _ = Fq qaz ↔ _
  rw [Vref2_eq phi psi theta hN, fmec, ← M3.transpose_transpose (mec mu eta chi), ← (isRot_mec mu eta chi).transpose.mul_eq_iff',
    M3.mul_assoc', ← M3.transpose_mul, ← Z_eq_mec_phi, ← M3.transpose_mul]
  exact ⟨congrArg M3.transpose, congrArg M3.transpose⟩

/-- the orientation equation `Z·V = F(qaz)` of the reference modes with the two known rotations of `V = N_phi·PSIᵀ·THETAᵀ` on the other side,
    `Z·N_phi = F(qaz)·THETA·PSI`, applied to a vector -/
theorem refSpec_mulVec {psi theta : ℝ} {N : M3 ℝ} {r : RTuple ℝ} (h : RefSpec (Vref psi theta N) r) (v : V3 ℝ) :
    M3.mulVec (C04.Z r.2.2.1 r.2.2.2.1 r.2.2.2.2.1 r.2.2.2.2.2) (M3.mulVec N v) =
      M3.mulVec (Fq r.1) (M3.mulVec (rotZ (-theta)) (M3.mulVec (rotX psi) v)) := by
  unfold RefSpec Vref at h
  rw [gen_x_rotation, gen_z_rotation, ← M3.mul_assoc', ← M3.mul_assoc', (isRot_rotZ _).transpose.mul_eq_iff',
    (isRot_rotX _).transpose.mul_eq_iff', M3.transpose_transpose, M3.transpose_transpose] at h
  rw [← M3.mulVec_mul, h, M3.mulVec_mul, M3.mulVec_mul]

/-! ### chi and phi given -/

/-- the matrix `__calc_sample_ref_con_chi_phi` builds is `CHI·PHI·V_ref` -/
theorem refConChiPhi_V (chi phi psi theta : ℝ) (N : M3 ℝ) :
    M3.mul (M3.mul (M3.mul (M3.mul (Gen.rot_CHI chi) (Gen.rot_PHI phi)) N) (M3.transpose (Gen.x_rotation psi))) (M3.transpose (Gen.z_rotation (-theta)))
      = M3.mul (cp chi phi) (Vref psi theta N) := by
  simp only [Vref, cp, (gen_rot_senses chi).2.2.1, (gen_rot_senses phi).2.2.2.2.2, M3.mul_assoc']

/-- **reference + chi + phi** (`__calc_sample_ref_con_chi_phi`) -/
theorem refConChiPhi_sound (chi phi psi theta : ℝ) (N : M3 ℝ) (hN : IsRot N) :
    AllOk (RefSpec (Vref psi theta N)) (refConChiPhi chi phi psi theta N) := by
  unfold refConChiPhi
  simp only [refConChiPhi_V, rs_cos, rs_atan2, rs_pi]
  have hV := (isRot_cp chi phi).mul (isRot_Vref psi theta N hN)
  generalize hVdef : M3.mul (cp chi phi) (Vref psi theta N) = V at hV ⊢
  have hrow := hV.row_sq.2.2
  have hcol := hV.col_sq.2.1
  have h21 : |-V.a21| ≤ 1 := by rw [abs_neg]; exact abs_le_one_of_unit hrow
  rw [boundAsin_eq h21, tryAssert_ok]
  -- either root `mu` of `sin mu = −V21`: the third row and the second column of `V` are those of `ETAᵀ·MUᵀ·F(qaz)`
  refine allOk_forM' _ _ fun mu hmu => ?_
  have hmu : Real.sin mu = -V.a21 := by
    refine (sin_of_mem_asin_pair h21 ?_).1
    split at hmu
    · exact List.mem_cons.mpr (.inl (List.mem_singleton.mp hmu))
    · exact hmu
  cases hsm : Scalar.isSmall (Real.cos mu)
  case true =>
    simp only [sign_small _ hsm, neg_zero, zero_mul, isSmall_zero, Bool.and_self, if_true]
    exact allOk_error _
  refine allOk_ite (allOk_error _) (allOk_ite (allOk_error _) (allOk_one ?_))
  have hc2 : Real.cos mu ^ 2 = 1 - (-V.a21) ^ 2 := hmu ▸ Real.cos_sq' mu
  obtain ⟨hcq, hsq⟩ := atan2_sign_cs (X := V.a20) (Y := V.a22) hsm (by linear_combination hrow - hc2)
  obtain ⟨hce, hse⟩ := atan2_sign_cs (X := V.a11) (Y := -V.a01) hsm (by linear_combination hcol - hc2)
  rw [← neg_mul_comm] at hce hse
  generalize atan2R (Scalar.sign (Real.cos mu) * V.a22) _ = qaz at hcq hsq ⊢
  generalize atan2R (-Scalar.sign (Real.cos mu) * V.a01) _ = eta at hce hse ⊢
  obtain ⟨e21, e20, e22, e01, e11⟩ := emf_entries mu eta qaz
  exact refSpec_iff_emf.mpr <| hVdef.trans <| rot_eq_of_row2_col1 _ _ hV (isRot_emf _ _ _)
    (fun h1 => not_small_ne_zero hsm (by rw [← sq_eq_zero_iff, hc2, neg_sq, h1, sub_self]))
    (e20.trans hcq).symm (e21.trans (neg_eq_iff_eq_neg.mpr hmu)).symm (e22.trans hsq).symm (e01.trans (neg_eq_iff_eq_neg.mpr hse)).symm (e11.trans hce).symm

/-! ### `__get_phi_and_qaz` and the three branches that end in it -/

/-- `__get_phi_and_qaz` reads `M = MU·ETA·CHI`: its pair `(a, b)` is `(M02, −M22)`, its second pair `(M10, M11)` -/
theorem phiAndQaz_mec {chi eta mu : ℝ} {M : M3 ℝ} (hM : mec mu eta chi = M) (V : M3 ℝ) :
    phiAndQaz chi eta mu V = (atan2R (V.a20 * M.a02 + V.a22 * M.a22) (V.a20 * M.a22 - V.a22 * M.a02),
      atan2R (V.a11 * M.a10 - V.a01 * M.a11) (V.a01 * M.a10 + V.a11 * M.a11)) := by
  subst hM
  unfold phiAndQaz
  simp only [rs_sin, rs_cos, rs_atan2, mec_entries]
  congr 2 <;> ring

/-- third row and second column of `(M·PHI)ᵀ·F(qaz)`, whatever `M`: `(M22, M02)` turned by qaz, `(M11, M10)` turned by phi, and `M12` where
    the two cross -/
theorem MPt_Fq_entries (M : M3 ℝ) (phi qaz : ℝ) :
    let W := M3.mul (M3.transpose (M3.mul M (rotZ (-phi)))) (Fq qaz)
    W.a20 = M.a22 * Real.cos qaz + M.a02 * Real.sin qaz ∧ W.a22 = -(-M.a22 * Real.sin qaz + M.a02 * Real.cos qaz) ∧ W.a21 = M.a12 ∧
    W.a11 = M.a11 * Real.cos phi + M.a10 * Real.sin phi ∧ W.a01 = -M.a11 * Real.sin phi + M.a10 * Real.cos phi := by
  simp only [Fq, rotZ, M3.mul, M3.transpose, rs_cos, rs_sin, rs_one, rs_zero, Real.cos_neg, Real.sin_neg, mul_zero, mul_one, add_zero, zero_add]
  refine ⟨by ring, by ring, trivial, by ring, by ring⟩

/-- `__get_phi_and_qaz`: whichever of mu, eta, chi was solved for, once the `V21` equation holds the two `atan2` read-offs complete the
    orientation equation -/
theorem refSpec_phiAndQaz {V : M3 ℝ} (hV : IsRot V) (hne : V.a21 ^ 2 ≠ 1) (psi : ℝ) {chi eta mu : ℝ}
    (h21 : Real.sin chi * Real.sin eta * Real.cos mu + Real.cos chi * Real.sin mu = -V.a21) :
    RefSpec V ((phiAndQaz chi eta mu V).1, psi, mu, eta, chi, (phiAndQaz chi eta mu V).2) := by
  have hM := isRot_mec mu eta chi
  have hk : V.a21 = (mec mu eta chi).a12 := by rw [mec_entries]; linear_combination h21
  have hr := hV.row_sq.2.2
  have hc := hV.col_sq.2.1
  rw [hk] at hr hc
  rw [phiAndQaz_mec rfl, refSpec_iff_Zt, Z_eq_mec_phi]
  -- from here on `M = MU·ETA·CHI` is any rotation with `M12 = V21`: what is left of its third column and of its second row has the length
  -- of what is left of the third row and the second column of `V`
  generalize mec mu eta chi = M at hM hk hr hc ⊢
  generalize hqz : atan2R (V.a20 * M.a02 + V.a22 * M.a22) _ = qaz
  generalize hph : atan2R (V.a11 * M.a10 - V.a01 * M.a11) _ = phi
  -- qaz turns `(M22, M02)` onto `(V20, −V22)`, phi turns `(M11, M10)` onto `(V11, V01)`
  have hq : M.a22 * Real.cos qaz + M.a02 * Real.sin qaz = V.a20 ∧ -M.a22 * Real.sin qaz + M.a02 * Real.cos qaz = -V.a22 := by
    rw [← hqz]; exact planar_solve (by linear_combination hM.col_sq.2.2 - hr) (by ring) (by ring)
  have hp : M.a11 * Real.cos phi + M.a10 * Real.sin phi = V.a11 ∧ -M.a11 * Real.sin phi + M.a10 * Real.cos phi = V.a01 := by
    rw [← hph]; exact planar_solve (by linear_combination hM.row_sq.2.1 - hc) (by ring) (by ring)
  -- so `V` and `(M·PHI)ᵀ·F(qaz)` have the same third row and second column
  obtain ⟨e20, e22, e21, e11, e01⟩ := MPt_Fq_entries M phi qaz
  exact rot_eq_of_row2_col1 V _ hV ((hM.mul (isRot_rotZ _)).transpose.mul (isRot_Fq _)) hne
    (e20.trans hq.1).symm (hk.trans e21.symm) (e22.trans (neg_eq_iff_eq_neg.mpr hq.2)).symm (e01.trans hp.2).symm (e11.trans hp.1).symm

/-- the root stage `__calc_sample_ref_con_mu_eta` and `_chi_eta` share (either unfolds to it): `p sin t + q cos t = y` solved by whichever
    of the two shifted root pairs the test `c` picks, every root handed to `k` -/
def shiftedLoop {β : Type} (rad p q y : ℝ) (c : Bool) (k : ℝ → β) : Py (List β) :=
  tryAssert (pySqrt rad >>= fun s => bound (y / s)) fun bot => do
    let ts ← if c then do
        let ac ← pyAcos bot
        pure [atan2R p q + ac, atan2R p q - ac]
      else do
        let as ← pyAsin bot
        pure [as - atan2R q p, Real.pi - as - atan2R q p]
    pure (ts.map k)

theorem allOk_shiftedLoop {β : Type} {P : β → Prop} (p q : ℝ) {rad y : ℝ} {c : Bool} {k : ℝ → β}
    (hrad : Real.sqrt rad = Scalar.hypot p q) (hr : 0 < Scalar.hypot p q) (hclip : |y / Real.sqrt rad| ≤ 1)
    (h : ∀ t, p * Real.sin t + q * Real.cos t = y → P (k t)) : AllOk P (shiftedLoop rad p q y c k) := by
  rw [hrad] at hclip
  unfold shiftedLoop
  simp only [pySqrt_eq (Real.sqrt_pos.mp (hrad ▸ hr)).le, hrad, bind, Except.bind, bound_id hclip, tryAssert_ok, pyAcos_eq hclip, pyAsin_eq hclip,
    pure, Except.pure, ok_ite, map_ite]
  -- the list is the one `shifted_pair_iff` speaks of
  refine allOk_ok (List.forall_mem_map.mpr fun t ht => h t ?_)
  rw [(shifted_pair_iff hr _ t _).mpr ⟨hclip, t, ht, C03.sameAngle_refl t⟩, mul_div_cancel₀ _ hr.ne']

/-- **reference + mu + eta** (`__calc_sample_ref_con_mu_eta`) -/
theorem refConMuEta_sound (mu eta psi theta : ℝ) (N : M3 ℝ) (hN : IsRot N)
    (hR : Real.sin eta * Real.cos mu ≠ 0 ∨ Real.sin mu ≠ 0)
    (hclip : |(-(Vref psi theta N).a21) / Real.sqrt (Real.sin eta * Real.sin eta * (Real.cos mu * Real.cos mu) + Real.sin mu * Real.sin mu)| ≤ 1)
    (hne : (Vref psi theta N).a21 ^ 2 ≠ 1) :
    AllOk (RefSpec (Vref psi theta N)) (refConMuEta mu eta psi theta N) :=
  allOk_shiftedLoop (Real.sin eta * Real.cos mu) (Real.sin mu) (sqrt_sumsq _ _ _) (hypot_pos_iff.mpr hR) hclip fun chi h =>
    refSpec_phiAndQaz (isRot_Vref psi theta N hN) hne psi (by linear_combination h)

/-- **reference + chi + eta** (`__calc_sample_ref_con_chi_eta`) -/
theorem refConChiEta_sound (chi eta psi theta : ℝ) (N : M3 ℝ) (hN : IsRot N)
    (hR : Real.cos chi ≠ 0 ∨ Real.sin chi * Real.sin eta ≠ 0)
    (hclip : |(-(Vref psi theta N).a21) / Real.sqrt (Real.sin eta * Real.sin eta * (Real.sin chi * Real.sin chi) + Real.cos chi * Real.cos chi)| ≤ 1)
    (hne : (Vref psi theta N).a21 ^ 2 ≠ 1) :
    AllOk (RefSpec (Vref psi theta N)) (refConChiEta chi eta psi theta N) :=
  allOk_shiftedLoop (Real.cos chi) (Real.sin chi * Real.sin eta)
    ((sqrt_sumsq (Real.sin eta) (Real.sin chi) (Real.cos chi)).trans (by rw [hypot_comm, mul_comm])) (hypot_pos_iff.mpr hR) hclip fun mu h =>
    refSpec_phiAndQaz (isRot_Vref psi theta N hN) hne psi (by linear_combination h)

/-- **reference + chi + mu** (`__calc_sample_ref_con_chi_mu`) -/
theorem refConChiMu_sound (chi mu psi theta : ℝ) (N : M3 ℝ) (hN : IsRot N)
    (hd : Real.sin chi * Real.cos mu ≠ 0)
    (hclip : |(-(Vref psi theta N).a21 - Real.cos chi * Real.sin mu) / (Real.sin chi * Real.cos mu)| ≤ 1)
    (hne : (Vref psi theta N).a21 ^ 2 ≠ 1) :
    AllOk (RefSpec (Vref psi theta N)) (refConChiMu chi mu psi theta N) := by
  unfold refConChiMu
  simp only [rs_sin, rs_cos, rs_pi, boundAsin_eq hclip, tryAssert_ok]
  refine allOk_ok (List.forall_mem_map.mpr fun eta heta => refSpec_phiAndQaz (isRot_Vref psi theta N hN) hne psi ?_)
  rw [(sin_of_mem_asin_pair hclip heta).1]
  linear_combination mul_div_cancel₀ (-(Vref psi theta N).a21 - Real.cos chi * Real.sin mu) hd

/-! ### `__get_chi_and_qaz` and the two branches that end in it -/

/-- second row and second column of `F(qaz)ᵀ·MU·ETA·CHI`: the pair `(B, A)` of `__get_chi_and_qaz` turned by chi, its second pair turned by qaz -/
theorem fmec_entries (qaz mu eta chi : ℝ) :
    (fmec qaz mu eta chi).a10 = -(Real.cos mu) * Real.sin eta * Real.cos chi + Real.sin mu * Real.sin chi ∧
    (fmec qaz mu eta chi).a12 = -(-(-(Real.cos mu) * Real.sin eta) * Real.sin chi + Real.sin mu * Real.cos chi) ∧
    (fmec qaz mu eta chi).a11 = Real.cos mu * Real.cos eta ∧
    (fmec qaz mu eta chi).a01 = Real.cos eta * Real.sin mu * Real.cos qaz + Real.sin eta * Real.sin qaz ∧
    (fmec qaz mu eta chi).a21 = -(-(Real.cos eta * Real.sin mu) * Real.sin qaz + Real.sin eta * Real.cos qaz) := by
  simp only [fmec, Fq, mec_entries, M3.mul, M3.transpose]
  refine ⟨by ring, by ring, by ring, by ring, by ring⟩

theorem chiAndQaz_norms {mu eta k : ℝ} (hk : k = Real.cos mu * Real.cos eta) :
    (-(Real.cos mu) * Real.sin eta) ^ 2 + Real.sin mu ^ 2 = 1 - k ^ 2 ∧ (Real.cos eta * Real.sin mu) ^ 2 + Real.sin eta ^ 2 = 1 - k ^ 2 := by
  subst hk
  exact ⟨by linear_combination Real.sin_sq_add_cos_sq mu + (Real.cos mu ^ 2) * Real.sin_sq_add_cos_sq eta,
    by linear_combination Real.sin_sq_add_cos_sq eta + (Real.cos eta ^ 2) * Real.sin_sq_add_cos_sq mu⟩

/-- `__get_chi_and_qaz`: once `V11 = cos μ cos η`, the two `atan2` read-offs give `V = F(qaz)ᵀ·MU·ETA·CHI` -/
theorem chiAndQaz_sound (mu eta : ℝ) (V : M3 ℝ) (hV : IsRot V) (h11 : V.a11 = Real.cos mu * Real.cos eta) (hne : V.a11 ^ 2 ≠ 1)
    (qaz chi : ℝ) (h : chiAndQaz mu eta V = .ok (qaz, chi)) : V = fmec qaz mu eta chi := by
  obtain ⟨hab, hab'⟩ := chiAndQaz_norms h11
  unfold chiAndQaz at h
  simp only [rs_sin, rs_cos, rs_atan2] at h
  split at h
  · cases h
  simp only [Except.ok.injEq, Prod.mk.injEq] at h
  obtain ⟨e10, e12, e11, e01, e21⟩ := fmec_entries qaz mu eta chi
  -- chi turns `(B, A)` onto `(V10, −V12)`, qaz turns `(B', A')` onto `(V01, −V21)`
  have hc : (fmec qaz mu eta chi).a10 = V.a10 ∧ (fmec qaz mu eta chi).a12 = V.a12 := by
    rw [e10, e12, neg_eq_iff_eq_neg, ← h.2]
    exact planar_solve (by linear_combination hab - hV.row_sq.2.1) (by ring) (by ring)
  have hq : (fmec qaz mu eta chi).a01 = V.a01 ∧ (fmec qaz mu eta chi).a21 = V.a21 := by
    rw [e01, e21, neg_eq_iff_eq_neg, ← h.1]
    exact planar_solve (by linear_combination hab' - hV.col_sq.2.1) (by ring) (by ring)
  exact rot_eq_of_row1_col1 V _ hV (isRot_fmec _ _ _ _) hne hc.1.symm (h11.trans e11.symm) hc.2.symm hq.1.symm hq.2.symm

/-- the body of the loop of either branch: an eta (or mu) with `V11 = cos μ cos η`, chi and qaz read off -/
theorem allOk_chiAndQaz {N : M3 ℝ} (hN : IsRot N) {mu eta phi psi theta : ℝ}
    (h11 : (Vref2 phi psi theta N).a11 = Real.cos mu * Real.cos eta) (hne : (Vref2 phi psi theta N).a11 ^ 2 ≠ 1) :
    AllOk (RefSpec (Vref psi theta N))
      (chiAndQaz mu eta (Vref2 phi psi theta N) >>= fun x => match x with | (qaz, chi) => pure [(qaz, psi, mu, eta, chi, phi)]) :=
  allOk_bind fun ⟨qaz, chi⟩ hqc => allOk_one <|
    (refSpec_iff_fmec hN).mpr (chiAndQaz_sound mu eta _ (isRot_Vref2 phi psi theta N hN) h11 hne qaz chi hqc)

/-- the loop the two branches share: `c cos t = y` solved by `± acos (y / c)`, either root passed to the same body -/
theorem allOk_acos_loop {β : Type} {P : β → Prop} {c y : ℝ} {f : ℝ → Py (List β)} (hclip : |y / c| ≤ 1)
    (h : ∀ t, y = c * Real.cos t → AllOk P (f t)) :
    AllOk P (if Scalar.isSmall c then .error .dce else tryAssert (boundAcos (y / c)) fun a => forM' [a, -a] f) := by
  split
  · exact allOk_error _
  rename_i hs
  rw [boundAcos_eq hclip, tryAssert_ok]
  refine allOk_forM' _ _ fun t ht => h t ?_
  rw [cos_of_mem_acos_pair hclip ht, mul_div_cancel₀ _ (not_small_ne_zero (by simpa using hs))]

/-- **reference + mu + phi** (`__calc_sample_ref_con_mu_phi`) -/
theorem refConMuPhi_sound (mu phi psi theta : ℝ) (N : M3 ℝ) (hN : IsRot N)
    (hclip : |(Vref2 phi psi theta N).a11 / Real.cos mu| ≤ 1) (hne : (Vref2 phi psi theta N).a11 ^ 2 ≠ 1) :
    AllOk (RefSpec (Vref psi theta N)) (refConMuPhi mu phi psi theta N) :=
  allOk_acos_loop hclip fun _ h => allOk_chiAndQaz hN h hne

/-- **reference + eta + phi** (`__calc_sample_ref_con_eta_phi`) -/
theorem refConEtaPhi_sound (eta phi psi theta : ℝ) (N : M3 ℝ) (hN : IsRot N)
    (hclip : |(Vref2 phi psi theta N).a11 / Real.cos eta| ≤ 1) (hne : (Vref2 phi psi theta N).a11 ^ 2 ≠ 1) :
    AllOk (RefSpec (Vref psi theta N)) (refConEtaPhi eta phi psi theta N) :=
  allOk_acos_loop hclip fun _ h => allOk_chiAndQaz hN (h.trans (mul_comm _ _)) hne

/-- generic-branch side conditions of the six reference + two-sample solvers -/
def Samp2RefGeneric (s : Samp2Ref ℝ) (psi theta : ℝ) (N : M3 ℝ) : Prop :=
  match s with
  | .chiPhi _ _ => True
  | .muEta mu eta => (Real.sin eta * Real.cos mu ≠ 0 ∨ Real.sin mu ≠ 0) ∧
      |(-(Vref psi theta N).a21) / Real.sqrt (Real.sin eta * Real.sin eta * (Real.cos mu * Real.cos mu) + Real.sin mu * Real.sin mu)| ≤ 1 ∧
      (Vref psi theta N).a21 ^ 2 ≠ 1
  | .chiEta chi eta => (Real.cos chi ≠ 0 ∨ Real.sin chi * Real.sin eta ≠ 0) ∧
      |(-(Vref psi theta N).a21) / Real.sqrt (Real.sin eta * Real.sin eta * (Real.sin chi * Real.sin chi) + Real.cos chi * Real.cos chi)| ≤ 1 ∧
      (Vref psi theta N).a21 ^ 2 ≠ 1
  | .chiMu chi mu => Real.sin chi * Real.cos mu ≠ 0 ∧
      |(-(Vref psi theta N).a21 - Real.cos chi * Real.sin mu) / (Real.sin chi * Real.cos mu)| ≤ 1 ∧ (Vref psi theta N).a21 ^ 2 ≠ 1
  | .muPhi mu phi => |(Vref2 phi psi theta N).a11 / Real.cos mu| ≤ 1 ∧ (Vref2 phi psi theta N).a11 ^ 2 ≠ 1
  | .etaPhi eta phi => |(Vref2 phi psi theta N).a11 / Real.cos eta| ≤ 1 ∧ (Vref2 phi psi theta N).a11 ^ 2 ≠ 1

/-- **reference + two sample angles, all six branches** (`_calc_sample_con_two_sample_and_reference`): every returned tuple satisfies
    `Z·N_phi·PSIᵀ·THETAᵀ = F(qaz)` for its own qaz -/
theorem twoSampleReference_sound (s : Samp2Ref ℝ) (psi theta : ℝ) (N : M3 ℝ) (hN : IsRot N) (hgen : Samp2RefGeneric s psi theta N) :
    AllOk (RefSpec (Vref psi theta N)) (twoSampleReference s psi theta N) := by
  cases s with
  | chiPhi chi phi => exact refConChiPhi_sound chi phi psi theta N hN
  | muEta mu eta => exact refConMuEta_sound mu eta psi theta N hN hgen.1 hgen.2.1 hgen.2.2
  | chiEta chi eta => exact refConChiEta_sound chi eta psi theta N hN hgen.1 hgen.2.1 hgen.2.2
  | chiMu chi mu => exact refConChiMu_sound chi mu psi theta N hN hgen.1 hgen.2.1 hgen.2.2
  | muPhi mu phi => exact refConMuPhi_sound mu phi psi theta N hN hgen.1 hgen.2
  | etaPhi eta phi => exact refConEtaPhi_sound eta phi psi theta N hN hgen.1 hgen.2

/-! ## names this property's check refers to; each restates a fact proved elsewhere -/

theorem transpose_transpose' (a : M3 ℝ) : M3.transpose (M3.transpose a) = a := M3.transpose_transpose a

theorem phiAndQaz_sound (chi eta mu : ℝ) (V : M3 ℝ) (hV : IsRot V)
    (h21 : V.a21 = -(Real.sin chi * Real.sin eta * Real.cos mu + Real.cos chi * Real.sin mu)) (hne : V.a21 ^ 2 ≠ 1) :
    M3.mul (cp chi (phiAndQaz chi eta mu V).2) V = emf mu eta (phiAndQaz chi eta mu V).1 :=
  refSpec_iff_emf.mp (refSpec_phiAndQaz hV hne 0 (neg_eq_iff_eq_neg.mp h21.symm))

end
end C01
