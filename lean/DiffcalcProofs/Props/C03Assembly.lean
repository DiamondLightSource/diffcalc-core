import DiffcalcProofs.Props.C03Sample
import DiffcalcProofs.Props.C03Detector
import DiffcalcProofs.Props.CalcN
/-!
# C03 — completeness end to end: detector constraint + two sample angles (27 mode shapes)

A physical position `P = (mu, delta, nu, eta, chi, phi)` whose forward model is the requested `hkl` (`C04.fwd UB P λ = hkl`), which honours
the detector constraint and carries the two sample values of the mode, is among the candidates `__calc_hkl_to_position` produces, every angle
modulo 2π (generic branch of each layer).  `request_of_fwd` turns the hypothesis on the forward model into the two layer relations at `P`'s own
`(θ, qaz)`; `detSamp2_yields` is the statement about the layers alone.
-/
namespace C03
open M3 Solver Scalar PyOps C01
noncomputable section

/-- the position carries the two given sample values of the mode (for the bisect modes: satisfies the bisect relations, for some
    `theta + omega`) -/
def Carries (s : Samp2Det ℝ) (theta qaz : ℝ) (p : STuple ℝ) : Prop :=
  match s with
  | .muEta mu eta => p.1 = mu ∧ p.2.1 = eta
  | .omegaBisect om => Real.tan p.1 = Real.tan (theta + om) * Real.cos qaz ∧ Real.sin p.2.1 = Real.sin (theta + om) * Real.sin qaz
  | .muBisect mu => p.1 = mu ∧ ∃ th, Real.tan mu = Real.tan th * Real.cos qaz ∧ Real.sin p.2.1 = Real.sin th * Real.sin qaz ∧ Real.cos th ≠ 0 ∧
      ∀ th', SameAngle th' th → Scalar.isSmall (|Real.arcsin (Real.sin th' * Real.sin qaz)| - Real.pi / 2) = false
  | .etaBisect eta => p.2.1 = eta ∧ ∃ th, Real.tan p.1 = Real.tan th * Real.cos qaz ∧ Real.sin eta = Real.sin th * Real.sin qaz
  | .chiPhi chi phi => p.2.2.1 = chi ∧ p.2.2.2 = phi
  | .muPhi mu phi => p.1 = mu ∧ p.2.2.2 = phi
  | .muChi mu chi => p.1 = mu ∧ p.2.2.1 = chi
  | .etaPhi eta phi => p.2.1 = eta ∧ p.2.2.2 = phi
  | .etaChi eta chi => p.2.1 = eta ∧ p.2.2.1 = chi

/-- the generic branch of each of the nine sample solvers, at the position `p` that is to be recovered: the side conditions of the
    branch completeness theorems (no degenerate axis, no coincident-root shortcut, no gimbal lock) -/
def Samp2DetRegular (s : Samp2Det ℝ) (N : M3 ℝ) (theta qaz : ℝ) (p : STuple ℝ) : Prop :=
  let h : V3 ℝ := ⟨N.a00, N.a10, N.a20⟩
  match s with
  | .muEta mu eta => (Scalar.isSmall N.a00 && Scalar.isSmall N.a10) = false ∧
      (outerInv mu eta (qDir theta qaz)).x ^ 2 + (outerInv mu eta (qDir theta qaz)).z ^ 2 ≠ 0
  | .omegaBisect om => Real.cos p.1 ≠ 0 ∧
      Scalar.isSmall (|Real.arcsin (Real.sin (theta + om) * Real.sin qaz)| - Real.pi / 2) = false ∧
      (Scalar.isSmall N.a00 && Scalar.isSmall N.a10) = false ∧
      (outerInv p.1 p.2.1 (qDir theta qaz)).x ^ 2 + (outerInv p.1 p.2.1 (qDir theta qaz)).z ^ 2 ≠ 0
  | .muBisect mu => Scalar.isSmall (Real.cos qaz) = false ∧
      (Scalar.isSmall N.a00 && Scalar.isSmall N.a10) = false ∧
      (outerInv mu p.2.1 (qDir theta qaz)).x ^ 2 + (outerInv mu p.2.1 (qDir theta qaz)).z ^ 2 ≠ 0
  | .etaBisect eta => Real.cos p.1 ≠ 0 ∧ Scalar.isSmall (Real.sin qaz) = false ∧
      Scalar.isSmall (|Real.arcsin (Real.sin eta / Real.sin qaz)| - Real.pi / 2) = false ∧
      (Scalar.isSmall N.a00 && Scalar.isSmall N.a10) = false ∧
      (outerInv p.1 eta (qDir theta qaz)).x ^ 2 + (outerInv p.1 eta (qDir theta qaz)).z ^ 2 ≠ 0
  | .chiPhi chi phi => (Real.sin theta ≠ 0 ∨ -(Real.cos qaz) * Real.cos theta ≠ 0) ∧
      (∀ mu ∈ [Real.arcsin ((inner chi phi h).z / Scalar.hypot (Real.sin theta) (-(Real.cos qaz) * Real.cos theta))
            + atan2R (-(Real.cos qaz) * Real.cos theta) (Real.sin theta),
          Real.pi - Real.arcsin ((inner chi phi h).z / Scalar.hypot (Real.sin theta) (-(Real.cos qaz) * Real.cos theta))
            + atan2R (-(Real.cos qaz) * Real.cos theta) (Real.sin theta)],
        (Scalar.isSmall (chiPhiXY (inner chi phi h) qaz theta mu).1 && Scalar.isSmall (chiPhiXY (inner chi phi h) qaz theta mu).2) = false) ∧
      (inner chi phi h).x ^ 2 + (inner chi phi h).y ^ 2 ≠ 0
  | .muPhi mu phi => (N.a00 * Real.cos phi + N.a10 * Real.sin phi ≠ 0 ∨ N.a20 ≠ 0) ∧
      (M3.mulVec (M3.transpose (rotX mu)) (qDir theta qaz)).x ^ 2 + (M3.mulVec (M3.transpose (rotX mu)) (qDir theta qaz)).y ^ 2 ≠ 0
  | .muChi mu chi => Scalar.isSmall (Real.sin chi) = false ∧ (Scalar.isSmall N.a10 && Scalar.isSmall N.a00) = false ∧
      (Scalar.isSmall (-(Real.cos qaz) * Real.cos theta * Real.sin mu + Real.cos mu * Real.sin theta) && Scalar.isSmall (Real.sin qaz * Real.cos theta)) = false ∧
      Scalar.isSmall (Real.arccos ((N.a20 * Real.cos chi - (Real.cos mu * Real.cos qaz * Real.cos theta + Real.sin mu * Real.sin theta)) /
              (Real.sin chi * Scalar.hypot N.a10 N.a00))) = false ∧
      (∀ phi, SameAngle phi p.2.2.2 → (inner chi phi h).x ^ 2 + (inner chi phi h).y ^ 2 ≠ 0)
  | .etaPhi eta phi => Real.cos eta ≠ 0 ∧ (-(Real.sin theta) ≠ 0 ∨ Real.cos theta * Real.cos qaz ≠ 0) ∧
      (Scalar.isSmall N.a20 && Scalar.isSmall (N.a00 * Real.cos phi + N.a10 * Real.sin phi)) = false ∧
      Scalar.isSmall (Real.arccos ((Real.sin qaz * Real.cos theta / Real.cos eta - (N.a10 * Real.cos phi - N.a00 * Real.sin phi) * Real.tan eta) /
              Scalar.hypot N.a20 (N.a00 * Real.cos phi + N.a10 * Real.sin phi))) = false ∧
      (∀ chi, SameAngle chi p.2.2.1 → (M3.mulVec (ecp eta chi phi) h).y ^ 2 + (M3.mulVec (ecp eta chi phi) h).z ^ 2 ≠ 0)
  | .etaChi eta chi => (1e-7 : ℝ) < Real.sin theta ^ 2 + (Real.cos qaz * Real.cos theta) ^ 2 ∧
      (Scalar.isSmall (N.a10 * Real.cos chi * Real.cos eta - N.a00 * Real.sin eta) &&
            Scalar.isSmall (N.a00 * Real.cos chi * Real.cos eta + N.a10 * Real.sin eta)) = false ∧
      Scalar.isSmall (Real.arccos ((Real.cos theta * Real.sin qaz - N.a20 * Real.cos eta * Real.sin chi) /
              Scalar.hypot (N.a10 * Real.cos chi * Real.cos eta - N.a00 * Real.sin eta) (N.a00 * Real.cos chi * Real.cos eta + N.a10 * Real.sin eta))) = false ∧
      (∀ phi ∈ [Real.arccos ((Real.cos theta * Real.sin qaz - N.a20 * Real.cos eta * Real.sin chi) /
              Scalar.hypot (N.a10 * Real.cos chi * Real.cos eta - N.a00 * Real.sin eta) (N.a00 * Real.cos chi * Real.cos eta + N.a10 * Real.sin eta))
            + atan2R (N.a10 * Real.cos chi * Real.cos eta - N.a00 * Real.sin eta) (N.a00 * Real.cos chi * Real.cos eta + N.a10 * Real.sin eta),
          -Real.arccos ((Real.cos theta * Real.sin qaz - N.a20 * Real.cos eta * Real.sin chi) /
              Scalar.hypot (N.a10 * Real.cos chi * Real.cos eta - N.a00 * Real.sin eta) (N.a00 * Real.cos chi * Real.cos eta + N.a10 * Real.sin eta))
            + atan2R (N.a10 * Real.cos chi * Real.cos eta - N.a00 * Real.sin eta) (N.a00 * Real.cos chi * Real.cos eta + N.a10 * Real.sin eta)],
        ∃ t, etaChiInner eta chi qaz theta N phi = .ok [t]) ∧
      (∀ phi, SameAngle phi p.2.2.2 → (M3.mulVec (ecp eta chi phi) h).y ^ 2 + (M3.mulVec (ecp eta chi phi) h).z ^ 2 ≠ 0)

/-- **completeness of `_calc_sample_con_two_sample_and_detector`, all nine branches behind the dispatcher**: a tuple that satisfies the
    sample relation and carries the mode's two given values is returned, modulo 2π -/
theorem twoSampleDetector_complete (s : Samp2Det ℝ) (qaz theta : ℝ) (N : M3 ℝ) (hN : N.a00 ^ 2 + N.a10 ^ 2 + N.a20 ^ 2 = 1)
    (p : STuple ℝ) (hS : SampleSpec ⟨N.a00, N.a10, N.a20⟩ theta qaz p) (hc : Carries s theta qaz p) (hr : Samp2DetRegular s N theta qaz p) :
    ∃ l, twoSampleDetector s qaz theta N = .ok l ∧ ∃ t ∈ l, SameTuple t p := by
  obtain ⟨mu0, eta0, chi0, phi0⟩ := p
  cases s with
  | muEta mu eta =>
    obtain ⟨rfl, rfl⟩ := hc
    obtain ⟨l, hl, t, ht, h1, h2, h3, h4⟩ := sampleConMuEta_complete _ _ qaz theta N hN chi0 phi0 hS hr.1 hr.2
    exact ⟨l, hl, t, ht, sameAngle_of_eq h1, sameAngle_of_eq h2, h3, h4⟩
  | omegaBisect om =>
    exact omegaBisect_complete om qaz theta N hN mu0 eta0 chi0 phi0 hS hc.1 hc.2 hr.1 hr.2.1 hr.2.2.1 hr.2.2.2
  | muBisect mu =>
    obtain ⟨rfl, th, hBm, hBe, hct, hgen⟩ := hc
    obtain ⟨l, hl, t, ht, h1, h2, h3, h4⟩ := muBisect_complete _ qaz theta N hN eta0 chi0 phi0 th hS hBm hBe hct hr.1 hgen hr.2.1 hr.2.2
    exact ⟨l, hl, t, ht, sameAngle_of_eq h1, h2, h3, h4⟩
  | etaBisect eta =>
    obtain ⟨rfl, th, hBm, hBe⟩ := hc
    obtain ⟨l, hl, t, ht, h1, h2, h3, h4⟩ := etaBisect_complete _ qaz theta N hN mu0 chi0 phi0 th hS hBm hBe hr.1 hr.2.1 hr.2.2.1 hr.2.2.2.1 hr.2.2.2.2
    exact ⟨l, hl, t, ht, h1, sameAngle_of_eq h2, h3, h4⟩
  | chiPhi chi phi =>
    obtain ⟨rfl, rfl⟩ := hc
    obtain ⟨l, hl, t, ht, h1, h2, h3, h4⟩ := sampleConChiPhi_complete _ _ qaz theta N hN mu0 eta0 hS hr.1 hr.2.1 hr.2.2
    exact ⟨l, hl, t, ht, h1, h2, sameAngle_of_eq h3, sameAngle_of_eq h4⟩
  | muPhi mu phi =>
    obtain ⟨rfl, rfl⟩ := hc
    obtain ⟨l, hl, t, ht, h1, h2, h3, h4⟩ := sampleConMuPhi_complete _ _ qaz theta N hN eta0 chi0 hS hr.1 hr.2
    exact ⟨l, hl, t, ht, sameAngle_of_eq h1, h2, h3, sameAngle_of_eq h4⟩
  | muChi mu chi =>
    obtain ⟨rfl, rfl⟩ := hc
    obtain ⟨l, hl, t, ht, h1, h2, h3, h4⟩ := sampleConMuChi_complete _ _ qaz theta N hN eta0 phi0 hS hr.1 hr.2.1 hr.2.2.1 hr.2.2.2.1 hr.2.2.2.2
    exact ⟨l, hl, t, ht, sameAngle_of_eq h1, h2, sameAngle_of_eq h3, h4⟩
  | etaPhi eta phi =>
    obtain ⟨rfl, rfl⟩ := hc
    obtain ⟨l, hl, t, ht, h1, h2, h3, h4⟩ := sampleConEtaPhi_complete _ _ qaz theta N hN mu0 chi0 hS hr.1 hr.2.1 hr.2.2.1 hr.2.2.2.1 hr.2.2.2.2
    exact ⟨l, hl, t, ht, h1, sameAngle_of_eq h2, h3, sameAngle_of_eq h4⟩
  | etaChi eta chi =>
    obtain ⟨rfl, rfl⟩ := hc
    obtain ⟨l, hl, t, ht, h1, h2, h3, h4⟩ := sampleConEtaChi_complete _ _ qaz theta N hN mu0 phi0 hS hr.1 hr.2.1 hr.2.2.1 hr.2.2.2.1 hr.2.2.2.2
    exact ⟨l, hl, t, ht, h1, sameAngle_of_eq h2, sameAngle_of_eq h3, h4⟩

/-! ## detector constraint + two sample angles -/

/-- the two-sample branch of `_calc_det_sample_reference` recovers a position from any triple `d` of the detector layer that carries its
    detector angles and at whose azimuth it satisfies the sample relation, provided the sample layer, if it succeeds at `d`'s azimuth, raises
    at no sibling's -/
theorem detSamp2_yields (det : DetCon ℝ) (s : Samp2Det ℝ) (h n : V3 ℝ) (theta : ℝ) (hh : 0 < V3.norm h) (hn : 0 < V3.norm n)
    (hx : (1e-7 : ℝ) < V3.norm (V3.cross (V3.unit h) (V3.unit n))) (mu delta nu eta chi phi : ℝ)
    (ds : List (ℝ × ℝ × ℝ)) (hds : detRemaining det theta = .ok ds) (d : ℝ × ℝ × ℝ) (hd : d ∈ ds)
    (hd1 : SameAngle d.1 delta) (hd2 : SameAngle d.2.1 nu)
    (hS : M3.mulVec (C04.Z mu eta chi phi) (V3.unit h) = qDir theta d.2.2)
    (hc : Carries s theta d.2.2 (mu, eta, chi, phi)) (hr : ∀ N, calcN h n = .ok N → Samp2DetRegular s N theta d.2.2 (mu, eta, chi, phi))
    (hsib : ∀ N, calcN h n = .ok N → (∃ ys, twoSampleDetector s d.2.2 theta N = .ok ys) →
      ∀ x ∈ ds, ∃ ys, twoSampleDetector s x.2.2 theta N = .ok ys) :
    Yields (fun sol : Sol ℝ => SamePosition sol mu delta nu eta chi phi)
      (detSampleReference (some det) none (.two s) h n theta none none) := by
  obtain ⟨N, hN, -, hNrot, hNcol⟩ := calcN_ok h n hh hn hx
  obtain ⟨ss, hss, t, ht, t1, t2, t3, t4⟩ :=
    twoSampleDetector_complete s d.2.2 theta N hNrot.col_sq.1 (mu, eta, chi, phi) (hNcol ▸ hS) hc (hr N hN)
  unfold detSampleReference
  refine yields_bind hN (yields_bind hds (yields_forM' (fun x hx => ?_) hd ?_))
  · obtain ⟨ys, hys⟩ := hsib N hN ⟨ss, hss⟩ x hx
    exact bind_total hys ⟨_, rfl⟩
  · exact yields_bind hss (yields_ok (List.mem_map.mpr ⟨t, ht, rfl⟩) ⟨t1, hd1, hd2, t2, t3, t4⟩)

/-- **qaz + two sample angles: completeness end to end** (nine mode shapes).  A position `P` whose forward model is the requested `hkl`,
    whose azimuth `qazOf δ ν` is the constrained value `q` (mod 2π) and which carries the mode's two sample values is among the
    candidates of `__calc_hkl_to_position`, every angle modulo 2π.  Side conditions: the reference vector is not within 1e-7 of the
    scattering vector, the position is off the direct beam / exact backscattering, `cos δ` is not small, and the sample branch is on its
    generic side at `P` (`Samp2DetRegular`, evaluated at the `N_phi` the solver itself builds). -/
theorem detSamp2_qaz_complete (ub : UBIn ℝ) (U : M3 ℝ) (hU : IsRot U) (hUB : ub.UB = M3.mul U ub.B) (hB : M3.det ub.B ≠ 0)
    (q : ℝ) (s : Samp2Det ℝ) (hkl : V3 ℝ) (wl : ℝ) (hwl : 0 < wl)
    (hne : 0 < V3.norm (M3.mulVec ub.B hkl)) (hn : 0 < V3.norm ub.n_phi)
    (hx : (1e-7 : ℝ) < V3.norm (V3.cross (V3.unit (M3.mulVec ub.UB hkl)) (V3.unit ub.n_phi)))
    (mu delta nu eta chi phi : ℝ)
    (hf : C04.fwd ub.UB mu delta nu eta chi phi wl = hkl)
    (hs : |Real.cos delta * Real.cos nu| < 1)
    (hq : SameAngle (qazOf delta nu) q)
    (hc : Carries s (thetaOf delta nu) q (mu, eta, chi, phi))
    (hcd : Scalar.isSmall (Real.cos delta) = false)
    (hr : ∀ N, calcN (M3.mulVec ub.UB hkl) ub.n_phi = .ok N → Samp2DetRegular s N (thetaOf delta nu) q (mu, eta, chi, phi)) :
    ∃ l, candidates ub (.detSamp2 (.qaz q) s) hkl wl = .ok l ∧ ∃ sol ∈ l, SamePosition sol mu delta nu eta chi phi := by
  obtain ⟨hpos, hcand, hD, hS⟩ := request_of_fwd ub U hU hUB hB (.detSamp2 (.qaz q) s) hkl wl hwl hne mu delta nu eta chi phi hf hs
  -- the detector layer from qaz hands on `q` itself, for every triple
  obtain ⟨d, hd, hd1, hd2, hd3⟩ := detFromQaz_complete delta nu q _ (detSpec_congr _ _ _ _ _ hq hD) hcd
  rw [hcand]
  refine detSamp2_yields (.qaz q) s _ ub.n_phi _ hpos hn hx mu delta nu eta chi phi _ rfl d hd hd1 hd2
    (hS.trans (hd3 ▸ qDir_congr _ _ _ hq)) (hd3 ▸ hc) (fun N hN => hd3 ▸ hr N hN) ?_
  intro N _ hok x hx
  rw [detFromQaz_qaz q _ x hx, ← hd3]; exact hok

/-- **any detector constraint (delta, nu or qaz) + two sample angles: completeness end to end** (all 27 mode shapes of this family).
    A position `P` whose forward model is the requested `hkl`, which honours the detector constraint and carries the mode's two sample
    values, is among the candidates of `__calc_hkl_to_position`, every angle modulo 2π.  Side conditions: reference vector not within
    1e-7 of the scattering vector; `P` off the direct beam / exact backscattering; the detector branch and the sample branch on their
    generic sides at `P` (for every representative of `P`'s azimuth: the solver hands the sample layer a root, not `qazOf` itself); and no
    sibling root of the detector layer makes the sample layer raise (an exception in one generator ends the whole request). -/
theorem detSamp2_complete (ub : UBIn ℝ) (U : M3 ℝ) (hU : IsRot U) (hUB : ub.UB = M3.mul U ub.B) (hB : M3.det ub.B ≠ 0)
    (det : DetCon ℝ) (s : Samp2Det ℝ) (hkl : V3 ℝ) (wl : ℝ) (hwl : 0 < wl)
    (hne : 0 < V3.norm (M3.mulVec ub.B hkl)) (hn : 0 < V3.norm ub.n_phi)
    (hx : (1e-7 : ℝ) < V3.norm (V3.cross (V3.unit (M3.mulVec ub.UB hkl)) (V3.unit ub.n_phi)))
    (mu delta nu eta chi phi : ℝ)
    (hf : C04.fwd ub.UB mu delta nu eta chi phi wl = hkl)
    (hs : |Real.cos delta * Real.cos nu| < 1)
    (hdc : DetCarries det delta nu) (hdr : DetRegular det delta nu (thetaOf delta nu))
    (hc : ∀ qz, SameAngle qz (qazOf delta nu) → Carries s (thetaOf delta nu) qz (mu, eta, chi, phi))
    (hr : ∀ N, calcN (M3.mulVec ub.UB hkl) ub.n_phi = .ok N → ∀ qz, SameAngle qz (qazOf delta nu) →
      Samp2DetRegular s N (thetaOf delta nu) qz (mu, eta, chi, phi))
    (hsib : ∀ N, calcN (M3.mulVec ub.UB hkl) ub.n_phi = .ok N → ∀ ds, detRemaining det (thetaOf delta nu) = .ok ds →
      ∀ x ∈ ds, ∃ ys, twoSampleDetector s x.2.2 (thetaOf delta nu) N = .ok ys) :
    ∃ l, candidates ub (.detSamp2 det s) hkl wl = .ok l ∧ ∃ sol ∈ l, SamePosition sol mu delta nu eta chi phi := by
  obtain ⟨hpos, hcand, hD, hS⟩ := request_of_fwd ub U hU hUB hB (.detSamp2 det s) hkl wl hwl hne mu delta nu eta chi phi hf hs
  obtain ⟨ds, hds, d, hd, hd1, hd2, hd3⟩ := detRemaining_complete det delta nu _ hD hdc hdr
  rw [hcand]
  exact detSamp2_yields det s _ ub.n_phi _ hpos hn hx mu delta nu eta chi phi ds hds d hd hd1 hd2
    (hS.trans (qDir_congr _ _ _ hd3).symm) (hc _ hd3) (fun N hN => hr N hN _ hd3) fun N hN _ => hsib N hN ds hds

/-! ## names this property's check refers to; each restates a fact proved elsewhere -/

/-- a nested generator loop all of whose bodies succeed succeeds, and holds everything its bodies yield -/
theorem forM'_ok_of_all {β γ : Type} (xs : List β) (f : β → Py (List γ)) (h : ∀ x ∈ xs, ∃ ys, f x = .ok ys) :
    ∃ l, forM' xs f = .ok l ∧ ∀ x ∈ xs, ∀ ys, f x = .ok ys → ∀ y ∈ ys, y ∈ l :=
  forM'_total h

end
end C03
