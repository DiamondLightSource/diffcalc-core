import DiffcalcProofs.Lemmas.Rotations
import DiffcalcProofs.Lemmas.PyCalc
/-!
# C08 (miscut and quaternion parts)

* `rodrigues_isRot` (in Lemmas/Rotations.lean) — the rotation `set_miscut` installs is a proper rotation (for every non-zero axis, every angle);
* `rodrigues_axis_fixed` — it leaves its axis fixed (so it is the rotation *about that axis*; handedness is fixed by
                           the Rodrigues formula itself);
* `getMiscut_setMiscut`  — `get_miscut` returns that angle and (unit) axis when the axis is perpendicular to the unit
                           surface normal, `0 < angle < π` and `sin angle` is not below the threshold `1e-7` under which `get_miscut` reports no miscut;
* `quatRot_isRot`        — `_get_rot_matrix(_get_quat_from_u123(u))` (GENERATED from `ub/fitting.py`) is a proper rotation
                           for every `u1 ∈ [0,1]` and all `u2, u3`: whatever the optimiser of `fit_ub` returns within its bounds, `U` stays proper
                           (`isRot_get_rot_matrix`, in Lemmas/Rotations.lean: any unit quaternion gives a proper rotation).
-/
namespace C08
open M3
noncomputable section

theorem rodrigues_axis_fixed (k : V3 ℝ) (t : ℝ) (hk : 0 < V3.norm k) :
    M3.mulVec (rodrigues k t) (V3.unit k) = V3.unit k := by
  rw [rodrigues_eq]; exact rodMat_axis (unit_comps k hk) _ _

/-- `get_miscut` in closed form: by Cauchy–Schwarz neither `bound` nor `acos` can fail -/
theorem getMiscut_eq (U : M3 ℝ) (s : V3 ℝ) :
    Miscut.getMiscut U s = .ok (if |V3.norm (V3.cross s (M3.mulVec U s))| < 1e-7 then (0, ⟨0, 0, 0⟩) else
      (Scalar.toDeg (Real.arccos (V3.dot s (M3.mulVec U s) / (V3.norm s * V3.norm (M3.mulVec U s)))), V3.unit (V3.cross s (M3.mulVec U s)))) := by
  have hx := V3.abs_dot_div_le_one s (M3.mulVec U s)
  simp only [Miscut.getMiscut, rs_lt, rs_abs, rs_SMALL, rs_zero, decide_eq_true_eq, bound_id hx, pyAcos_eq hx, bind, Except.bind, pure,
    Except.pure]
  split <;> rfl

/-- **C08, get_miscut ∘ set_miscut**: for a unit axis perpendicular to the unit lab-frame surface normal and
    `0 < θ < π`, `get_miscut` on `U = Rod(k, θ)` returns `θ` (in degrees) and the axis `k` -/
theorem getMiscut_setMiscut (k s : V3 ℝ) (t : ℝ) (hk : V3.norm k = 1) (hs : V3.dot s s = 1)
    (hperp : V3.dot k s = 0) (ht0 : 0 < t) (ht1 : t < Real.pi) (hbig : (1e-7 : ℝ) ≤ Real.sin t) :
    Miscut.getMiscut (rodrigues k t) s = .ok (Scalar.toDeg t, k) := by
  have hsin : 0 < Real.sin t := Real.sin_pos_of_pos_of_lt_pi ht0 ht1
  have hns : V3.norm s = 1 := V3.norm_of_dot_self_one hs
  have hnr : V3.norm (M3.mulVec (rodrigues k t) s) = 1 := by rw [(rodrigues_isRot k t (V3.norm_pos_of_norm_one hk)).norm, hns]
  have hnax : V3.norm (V3.smul (Real.sin t) k) = Real.sin t := by rw [V3.norm_smul_pos _ hsin, hk, mul_one]
  -- `s × R s = sin t · k` and `s · R s = cos t`
  rw [getMiscut_eq, cross_rodrigues_perp t hk hs hperp, dot_rodrigues_perp t hk hs hperp, hnr, hns, hnax, mul_one, div_one,
    if_neg (not_lt.mpr (hbig.trans (le_abs_self _))), Real.arccos_cos ht0.le ht1.le, ← V3.smul_inv_norm, hnax, V3.smul_smul,
    one_div_mul_cancel hsin.ne', V3.one_smul]

/-- **C11 (textual reports) / C08**: `get_miscut` never leaves through `bound`'s AssertionError, whatever the length of the surface vector —
    the defect of the pinned tree (`cos = s·Us / |Us|`, not divided by `|s|`) made `str(UBCalculation)` raise for `surf_nphi = (0, 0, 2)` -/
theorem getMiscut_total (U : M3 ℝ) (hU : IsRot U) (s : V3 ℝ) : ∃ r, Miscut.getMiscut U s = .ok r := ⟨_, getMiscut_eq U s⟩

/-- **C08 / C15**: the matrix built from any point of the optimiser's box is a proper rotation: `_get_quat_from_u123` returns a unit quaternion -/
theorem quatRot_isRot (u1 u2 u3 : ℝ) (h0 : 0 ≤ u1) (h1 : u1 ≤ 1) :
    let q := Gen.get_quat_from_u123 u1 u2 u3
    IsRot (Gen.get_rot_matrix q.1 q.2.1 q.2.2.1 q.2.2.2) := by
  apply isRot_get_rot_matrix
  simp only [Gen.get_quat_from_u123, rs_sqrt, rs_sin, rs_cos, rs_pi, rs_ofNat, Nat.cast_ofNat, Nat.cast_one]
  linear_combination (Real.sin (2 * Real.pi * u2) ^ 2 + Real.cos (2 * Real.pi * u2) ^ 2) * Real.sq_sqrt (sub_nonneg.mpr h1)
    + (Real.sin (2 * Real.pi * u3) ^ 2 + Real.cos (2 * Real.pi * u3) ^ 2) * Real.sq_sqrt h0
    + (1 - u1) * Real.sin_sq_add_cos_sq (2 * Real.pi * u2) + u1 * Real.sin_sq_add_cos_sq (2 * Real.pi * u3)

/-! ## names this property's check refers to; each restates a fact proved elsewhere -/

theorem norm_rot (r : M3 ℝ) (hr : IsRot r) (v : V3 ℝ) : V3.norm (M3.mulVec r v) = V3.norm v := hr.norm v
end
end C08
