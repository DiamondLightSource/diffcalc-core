import DiffcalcProofs.Lemmas.Rotations
import DiffcalcProofs.Lemmas.PyCalc
import DiffcalcProofs.Props.C18
import Diffcalc.Model.CalcUB
/-!
# C07 — calc_ub recovers the crystal orientation from any two consistent references

Model: `Diffcalc/Model/CalcUB.lean` (hand, tie H).  Proved (real reading):
* `triad_equivariant`: the orthonormal triad of `(k₁·R a, k₂·R b)` (any positive scalings `k₁, k₂`) is `R ·` the triad of `(a, b)`;
* `calcUb_recovers`: if both references are consistent with a true orientation `U0 ∈ SO(3)` (their phi-frame directions are positive
  multiples of `U0·B·h_i`), `calc_ub` sets `U = U0` (hence `UB = U0·B`);
* `triad_orthonormal`, `calcUb_proper`: for ARBITRARY (inconsistent) data the result is a proper rotation;
* `calcUb_first_direction`: the direction of the first reference is reproduced exactly;
* parallel references are rejected with DiffcalcException (`triad_parallel_rejected`);
* the single-reflection path is the Rodrigues rotation about `ĥ × q̂` by the angle between them (`fromOne_eq`): proper, and it maps the
  crystal direction onto the measured one (`fromOne_isRot`, `fromOne_reproduces`);
* the reference selection: an index beyond the reflection list addresses the orientations, a reflection shadows an orientation, the
  defaults (`pick_*`, `select_*`).  The remaining index / tag mixes are covered by correspondence and oracle.
-/
namespace C07
open M3 CalcUB PyOps
noncomputable section

/-! ## the right-handed orthonormal triad of two vectors -/

/-- the matrix whose columns are the unit vectors along `a`, `(a×b)×a`, `a×b` -/
def triadMat (a b : V3 ℝ) : M3 ℝ := M3.ofCols (V3.unit a) (V3.unit (V3.cross (V3.cross a b) a)) (V3.unit (V3.cross a b))

/-- it is a proper rotation as soon as `a` and `a × b` are non-zero: `(a × b) × a` has the product of their lengths -/
theorem isRot_triadMat {a b : V3 ℝ} (pa : 0 < V3.norm a) (p3 : 0 < V3.norm (V3.cross a b)) : IsRot (triadMat a b) := by
  have p2 : 0 < V3.norm (V3.cross (V3.cross a b) a) := by rw [V3.norm_cross_cross_self]; exact mul_pos p3 pa
  apply isRot_ofCols (V3.dot_unit_self pa) (V3.dot_unit_self p2) (V3.dot_unit_self p3)
    (V3.dot_unit_eq_zero (by rw [V3.dot_comm]; exact V3.dot_cross_right_self _ a))
    (V3.dot_unit_eq_zero (by rw [V3.dot_comm]; exact V3.dot_cross_left_self a b))
    (V3.dot_unit_eq_zero (V3.dot_cross_left_self _ a))
  -- right-handed: with `c = a × b ⟂ a`, `a × (c × a) = (a·a) c`, so the triple product of the columns is `|a|² |c|²` over the three lengths
  have e : M3.det (M3.ofCols a (V3.cross (V3.cross a b) a) (V3.cross a b)) = V3.dot a a * V3.dot (V3.cross a b) (V3.cross a b) := by
    rw [det_ofCols, V3.cross_cross_right, V3.dot_comm a (V3.cross a b), V3.dot_cross_left_self]
    simp only [V3.dot, V3.sub, V3.smul]; ring
  rw [det_ofCols_unit, e]
  exact div_pos (mul_pos (V3.dot_self_pos pa) (V3.dot_self_pos p3)) (mul_pos (mul_pos pa p2) p3)

theorem mulVec_triadMat_ex (a b : V3 ℝ) : M3.mulVec (triadMat a b) ⟨1, 0, 0⟩ = V3.unit a := mulVec_ofCols_ex _ _ _

/-- positive factors on `a` and `b` do not change it -/
theorem triadMat_smul {k1 k2 : ℝ} (h1 : 0 < k1) (h2 : 0 < k2) (a b : V3 ℝ) :
    triadMat (V3.smul k1 a) (V3.smul k2 b) = triadMat a b := by
  simp only [triadMat, V3.cross_smul_left, V3.cross_smul_right, V3.smul_smul, V3.unit_smul, h1, mul_pos h2 h1, mul_pos]

/-- and it commutes with proper rotations -/
theorem triadMat_rot {R : M3 ℝ} (hR : IsRot R) (a b : V3 ℝ) :
    triadMat (M3.mulVec R a) (M3.mulVec R b) = M3.mul R (triadMat a b) := by
  unfold triadMat
  rw [hR.cross, hR.cross, hR.unit, hR.unit, hR.unit, mul_ofCols]

/-! ## `_calc_ub_from_two_references` -/

/-- the three quotients are `V3.unit` -/
theorem normaliseOrFail_eq (v : V3 ℝ) : normaliseOrFail v = if V3.norm v < 1e-7 then .error .dce else .ok (V3.unit v) := by
  simp only [normaliseOrFail, rs_lt, rs_SMALL, decide_eq_true_eq]; rfl

theorem normalise_ok {v n : V3 ℝ} (h : normaliseOrFail v = .ok n) : n = V3.unit v ∧ 0 < V3.norm v := by
  rw [normaliseOrFail_eq] at h
  split_ifs at h with hlt
  cases h
  exact ⟨rfl, lt_of_lt_of_le (by norm_num) (not_lt.mp hlt)⟩

theorem normalise_of_pos {v : V3 ℝ} (h : (1e-7 : ℝ) ≤ V3.norm v) : normaliseOrFail v = .ok (V3.unit v) := by
  rw [normaliseOrFail_eq, if_neg (not_lt.mpr h)]

theorem noLeak_normalise (v : V3 ℝ) : NoLeak (normaliseOrFail v) := by
  rw [normaliseOrFail_eq]; exact noLeak_ite noLeak_dce (noLeak_ok _)

/-- `triad` succeeds exactly with the triad matrix -/
theorem triad_ok {a b : V3 ℝ} {T : M3 ℝ} (h : triad a b = .ok T) :
    T = triadMat a b ∧ 0 < V3.norm a ∧ 0 < V3.norm (V3.cross a b) := by
  unfold triad at h
  obtain ⟨n1, h1, h⟩ := bind_ok_inv h
  obtain ⟨n2, h2, h⟩ := bind_ok_inv h
  obtain ⟨n3, h3, h⟩ := bind_ok_inv h
  obtain ⟨rfl, p1⟩ := normalise_ok h1
  obtain ⟨rfl, -⟩ := normalise_ok h2
  obtain ⟨rfl, p3⟩ := normalise_ok h3
  exact ⟨(Except.ok.inj h).symm, p1, p3⟩

theorem triad_isRot {a b : V3 ℝ} {T : M3 ℝ} (h : triad a b = .ok T) : IsRot T := by
  obtain ⟨rfl, pa, p3⟩ := triad_ok h
  exact isRot_triadMat pa p3

/-- the triad matrix is orthonormal -/
theorem triad_orthonormal {a b : V3 ℝ} {T : M3 ℝ} (h : triad a b = .ok T) : M3.mul (M3.transpose T) T = M3.id := (triad_isRot h).1

/-- both triads are right-handed: `t1 · (t2 × t3) = 1` -/
theorem triad_det_one {a b : V3 ℝ} {T : M3 ℝ} (h : triad a b = .ok T) : M3.det T = 1 := (triad_isRot h).2

/-- **equivariance of the triad**: consistent data give the rotated triad -/
theorem triad_equivariant {R : M3 ℝ} (hR : IsRot R) (a b : V3 ℝ) (k1 k2 : ℝ) (h1 : 0 < k1) (h2 : 0 < k2) (Tc Tp : M3 ℝ)
    (hc : triad a b = .ok Tc) (hp : triad (V3.smul k1 (M3.mulVec R a)) (V3.smul k2 (M3.mulVec R b)) = .ok Tp) :
    Tp = M3.mul R Tc := by
  rw [(triad_ok hp).1, (triad_ok hc).1, triadMat_smul h1 h2, triadMat_rot hR]

/-- `fromTwo` succeeds exactly with `T_phi · T_crystal⁻¹` of the two triads -/
theorem fromTwo_ok {B : M3 ℝ} {r1 r2 : Ref ℝ} {U : M3 ℝ} (h : fromTwo B r1 r2 = .ok U) :
    ∃ Tc Tp, triad (M3.mulVec B r1.hkl) (M3.mulVec B r2.hkl) = .ok Tc ∧ triad r1.uPhi r2.uPhi = .ok Tp ∧ U = M3.mul Tp (M3.inv Tc) := by
  unfold fromTwo at h
  obtain ⟨Tc, hc, h⟩ := bind_ok_inv h
  obtain ⟨Tp, hp, h⟩ := bind_ok_inv h
  exact ⟨Tc, Tp, hc, hp, (Except.ok.inj h).symm⟩

/-- **C07, consistent references**: `calc_ub` recovers the true orientation -/
theorem calcUb_recovers (B : M3 ℝ) (U0 : M3 ℝ) (hU : IsRot U0) (r1 r2 : Ref ℝ) (k1 k2 : ℝ) (hk1 : 0 < k1) (hk2 : 0 < k2)
    (h1 : r1.uPhi = V3.smul k1 (M3.mulVec U0 (M3.mulVec B r1.hkl)))
    (h2 : r2.uPhi = V3.smul k2 (M3.mulVec U0 (M3.mulVec B r2.hkl)))
    (U : M3 ℝ) (hres : fromTwo B r1 r2 = .ok U) : U = U0 := by
  obtain ⟨Tc, Tp, hc, hp, rfl⟩ := fromTwo_ok hres
  rw [h1, h2] at hp
  rw [triad_equivariant hU _ _ k1 k2 hk1 hk2 Tc Tp hc hp, M3.mul_assoc', M3.mul_inv_cancel Tc (triad_isRot hc).det_ne_zero, M3.mul_id]

/-- **C07, arbitrary data**: whatever the two references are (as long as neither pair is parallel), `U` is a proper rotation -/
theorem calcUb_proper (B : M3 ℝ) (r1 r2 : Ref ℝ) (U : M3 ℝ) (hres : fromTwo B r1 r2 = .ok U) : IsRot U := by
  obtain ⟨Tc, Tp, hc, hp, rfl⟩ := fromTwo_ok hres
  rw [(triad_isRot hc).inv_eq]
  exact (triad_isRot hp).mul (triad_isRot hc).transpose

/-- **C07, first reference**: `U` maps the crystal direction of the first reference exactly onto its measured direction -/
theorem calcUb_first_direction (B : M3 ℝ) (r1 r2 : Ref ℝ) (U : M3 ℝ) (hres : fromTwo B r1 r2 = .ok U) :
    M3.mulVec U (V3.unit (M3.mulVec B r1.hkl)) = V3.unit r1.uPhi := by
  obtain ⟨Tc, Tp, hc, hp, rfl⟩ := fromTwo_ok hres
  -- the unit crystal direction is the first column `Tc·e_x`: `inv Tc` maps it to `e_x`, and `Tp` maps `e_x` to its own first column
  rw [← mulVec_triadMat_ex (M3.mulVec B r1.hkl) (M3.mulVec B r2.hkl), ← (triad_ok hc).1, M3.mulVec_mul,
    M3.inv_mulVec_cancel Tc (triad_isRot hc).det_ne_zero, (triad_ok hp).1, mulVec_triadMat_ex]

theorem noLeak_triad (a b : V3 ℝ) : NoLeak (triad a b) :=
  noLeak_bind (noLeak_normalise _) fun _ _ => noLeak_bind (noLeak_normalise _) fun _ _ =>
    noLeak_bind (noLeak_normalise _) fun _ _ => noLeak_ok _

theorem triad_error {a b : V3 ℝ} {e : PErr} (h : triad a b = .error e) : e = .dce := noLeak_triad a b e h

theorem noLeak_fromTwo (B : M3 ℝ) (r1 r2 : Ref ℝ) : NoLeak (fromTwo B r1 r2) :=
  noLeak_bind (noLeak_triad _ _) fun _ _ => noLeak_bind (noLeak_triad _ _) fun _ _ => noLeak_ok _

/-- parallel references (their cross product below the threshold) are rejected with DiffcalcException -/
theorem triad_parallel_rejected (a b : V3 ℝ) (h : V3.norm (V3.cross a b) < 1e-7) : triad a b = .error .dce ∨ ∃ e, triad a b = .error e ∧ e = .dce := by
  left
  have h3 : normaliseOrFail (V3.cross a b) = .error .dce := by rw [normaliseOrFail_eq, if_pos h]
  exact bind_eq_dce (noLeak_normalise _) fun _ => bind_eq_dce (noLeak_normalise _) fun _ => by rw [h3]; rfl

/-! ## single reflection (`_calc_ub_from_primary_only`) -/

/-- the matrix `_calc_ub_from_primary_only` writes down entry by entry is the Rodrigues matrix -/
theorem fromOne_entries (u v w c s : ℝ) :
    (⟨c + u * u * (1 - c), -w * s + u * v * (1 - c), v * s + u * w * (1 - c),
      w * s + v * u * (1 - c), c + v * v * (1 - c), -u * s + v * w * (1 - c),
      -v * s + w * u * (1 - c), u * s + w * v * (1 - c), c + w * w * (1 - c)⟩ : M3 ℝ) = C08.rodMat u v w c s := by
  simp only [C08.rodMat]
  congr 1 <;> ring

/-- the single-reflection matrix is the Rodrigues rotation about `hc × q` by `acos (hc · q)` of the two unit vectors -/
theorem fromOne_eq (B : M3 ℝ) (h q : V3 ℝ) :
    fromOne B h q = rodrigues (V3.cross (V3.unit (M3.mulVec B h)) (V3.unit q))
      (Real.arccos (V3.dot (V3.unit (M3.mulVec B h)) (V3.unit q))) := by
  simp only [fromOne, rs_one, rs_cos, rs_sin, rs_acos, V3.smul_inv_norm, C08.rodrigues_eq]
  exact fromOne_entries _ _ _ _ _

/-- **C07, single reflection**: the result is a proper rotation … -/
theorem fromOne_isRot (B : M3 ℝ) (h q : V3 ℝ) (hn : 0 < V3.norm (V3.cross (V3.unit (M3.mulVec B h)) (V3.unit q))) :
    IsRot (fromOne B h q) := by
  rw [fromOne_eq]; exact C08.rodrigues_isRot _ _ hn

/-- … that maps the crystal direction of the reflection onto its measured direction -/
theorem fromOne_reproduces (B : M3 ℝ) (h q : V3 ℝ) (hh : 0 < V3.norm (M3.mulVec B h)) (hq : 0 < V3.norm q)
    (hn : 0 < V3.norm (V3.cross (V3.unit (M3.mulVec B h)) (V3.unit q))) :
    M3.mulVec (fromOne B h q) (V3.unit (M3.mulVec B h)) = V3.unit q := by
  rw [fromOne_eq]; exact rodrigues_align (V3.dot_unit_self hh) (V3.dot_unit_self hq) hn

/-! ## reference selection -/

theorem getRef_num_lt (l : List (Stored ℝ)) {i : Nat} (h : i < l.length) : getRef l (.num (i + 1 : Nat)) = .ok l[i].ref := by
  unfold getRef
  rw [C18.locate_num _ l (i + 1) (by omega) (by omega)]
  simp only [Nat.add_sub_cancel, List.getElem?_eq_getElem h]

theorem getRef_above (l : List (Stored ℝ)) (i : Nat) (h : l.length < i) : getRef l (.num i) = .error .index := by
  unfold getRef
  rw [C18.locate_above _ l i h]

/-- an integer index beyond the reflection list addresses the orientation list (and a reflection, when present, shadows it) -/
theorem pick_orientation_by_number (rs os : List (Stored ℝ)) (i : Nat) (h : rs.length < i) :
    pick rs os (some (.num i)) = (getRef os (.num i)).toOption := by
  simp only [pick, getRef_above rs i h]
  cases getRef os (.num i) <;> rfl

theorem pick_reflection_first (rs os : List (Stored ℝ)) (ix : Idx) (r : Ref ℝ) (h : getRef rs ix = .ok r) :
    pick rs os (some ix) = some r := by
  simp only [pick, h]

/-- the two explicitly addressed references are looked up independently: swapping the arguments swaps the references -/
theorem select_swap (rs os : List (Stored ℝ)) (i j : Idx) (a b : Ref ℝ) :
    select rs os (some i) (some j) = .two a b ↔ select rs os (some j) (some i) = .two b a := by
  simp only [select]
  -- unless both lookups succeed both sides are `.dce = .two _ _`; when they do, each side says that the two references found are `a` and `b`
  cases pick rs os (some i) <;> cases pick rs os (some j) <;> simp
  exact and_comm

/-- the first two records of a list that has them -/
theorem getRef_first_two (r1 r2 : Stored ℝ) (rest : List (Stored ℝ)) :
    getRef (r1 :: r2 :: rest) (.num 1) = .ok r1.ref ∧ getRef (r1 :: r2 :: rest) (.num 2) = .ok r2.ref :=
  ⟨getRef_num_lt (r1 :: r2 :: rest) (i := 0) (Nat.zero_lt_succ _),
   getRef_num_lt (r1 :: r2 :: rest) (i := 1) (Nat.succ_lt_succ (Nat.zero_lt_succ _))⟩

/-- with no arguments (and not exactly one reflection) the first two of reflection 1, reflection 2, orientation 1, orientation 2 that exist are used -/
theorem select_default_two_reflections (rs os : List (Stored ℝ)) (r1 r2 : Stored ℝ) (rest : List (Stored ℝ)) (h : rs = r1 :: r2 :: rest) :
    select rs os none none = .two r1.ref r2.ref := by
  subst h
  simp only [select, getRef_first_two r1 r2 rest]
  rfl

theorem select_default_orientations (os : List (Stored ℝ)) (o1 o2 : Stored ℝ) (rest : List (Stored ℝ)) (h : os = o1 :: o2 :: rest) :
    select [] os none none = .two o1.ref o2.ref := by
  subst h
  simp only [select, getRef_first_two o1 o2 rest, getRef_above [] 1 Nat.zero_lt_one, getRef_above [] 2 Nat.zero_lt_two]
  rfl

/-- a failing `calc_ub` raises DiffcalcException, or ValueError for an unknown tag on the single-reflection path (`hsel`: that path only ever reads the reflection list) -/
theorem calcUb_error_kinds (B : M3 ℝ) (rs os : List (Stored ℝ)) (i1 i2 : Option Idx) (e : PErr)
    (h : calcUb B rs os i1 i2 = .error e) (hsel : ∀ r, select rs os i1 i2 = .one r → ∃ hh a b c d e f, r = .refl hh a b c d e f) :
    e = .dce ∨ e = .valueError := by
  unfold calcUb at h
  split at h
  · exact .inl (noLeak_fromTwo B _ _ e h)
  · cases h
  · rename_i hs
    obtain ⟨_, _, _, _, _, _, _, hr⟩ := hsel _ hs
    cases hr
  · cases h; exact .inl rfl
  · cases h; exact .inr rfl

/-! ## names this property's check refers to; each restates a fact proved elsewhere -/

theorem cross_rot {R : M3 ℝ} (h : IsRot R) (v w : V3 ℝ) :
    V3.cross (M3.mulVec R v) (M3.mulVec R w) = M3.mulVec R (V3.cross v w) := h.cross v w
theorem unit_rot {R : M3 ℝ} (h : IsRot R) (v : V3 ℝ) : V3.unit (M3.mulVec R v) = M3.mulVec R (V3.unit v) := h.unit v
theorem ofCols_mul (R : M3 ℝ) (a b c : V3 ℝ) :
    M3.ofCols (M3.mulVec R a) (M3.mulVec R b) (M3.mulVec R c) = M3.mul R (M3.ofCols a b c) := (mul_ofCols R a b c).symm
theorem norm_unit_sq (v : V3 ℝ) (hv : 0 < V3.norm v) : V3.dot (V3.unit v) (V3.unit v) = 1 := V3.dot_unit_self hv
theorem dot_unit (u v : V3 ℝ) : V3.dot (V3.unit u) (V3.unit v) = V3.dot u v / (V3.norm u * V3.norm v) := V3.dot_unit u v
theorem norm_sq (v : V3 ℝ) : V3.norm v * V3.norm v = V3.dot v v := V3.norm_mul_self v
theorem triadMat_isRot (a b : V3 ℝ) (pa : 0 < V3.norm a) (p2 : 0 < V3.norm (V3.cross (V3.cross a b) a)) (p3 : 0 < V3.norm (V3.cross a b)) :
    IsRot (triadMat a b) := isRot_triadMat pa p3
theorem rod_align (a b : V3 ℝ) (ha : V3.dot a a = 1) (hb : V3.dot b b = 1) (hs : 0 < V3.norm (V3.cross a b)) :
    M3.mulVec (C08.rodMat ((V3.cross a b).x / V3.norm (V3.cross a b)) ((V3.cross a b).y / V3.norm (V3.cross a b))
      ((V3.cross a b).z / V3.norm (V3.cross a b)) (Real.cos (Real.arccos (V3.dot a b))) (Real.sin (Real.arccos (V3.dot a b)))) a = b := by
  rw [← C08.rodrigues_eq]; exact rodrigues_align ha hb hs
end
end C07
