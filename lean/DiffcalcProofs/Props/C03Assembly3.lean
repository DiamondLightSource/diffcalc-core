import DiffcalcProofs.Props.C03Detector
import DiffcalcProofs.Props.C03Sample
import DiffcalcProofs.Props.CalcN
/-!
# C03 — completeness end to end: detector (or naz) + reference + one sample angle (112 mode shapes)

`_calc_N` is the right-handed triad of its two arguments and the triad construction commutes with rotations (`CalcN`), hence for a position
`P` with sample rotation `Z`: `Z · N_phi = N_lab(P)`, the full orientation equation the single-sample branches solve.  The azimuths of the
scattering and the reference direction differ by `± acos((cos τ − sin α sin θ) / (cos α cos θ))` (`naz_qaz_relation`: a rotation preserves the
angle τ between them), which is the pair `_calc_detector_con_det_or_naz` enumerates.
-/
namespace C03
open M3 Solver Scalar PyOps C01
noncomputable section

/-- the azimuths of the scattering vector and of the reference vector in the laboratory differ by the angle the detector layer computes -/
theorem naz_qaz_relation (theta q alpha z tau : ℝ) (hdot : V3.dot (qDir theta q) (nLab alpha (some z)) = Real.cos tau)
    (hb : Real.cos alpha * Real.cos theta ≠ 0) :
    Real.cos (z - q) = (Real.cos tau - Real.sin alpha * Real.sin theta) / (Real.cos alpha * Real.cos theta) := by
  simp only [V3.dot, qDir, nLab] at hdot
  rw [Real.cos_sub, eq_div_iff hb]
  linear_combination hdot

/-- the angle `_calc_angle_between_naz_and_qaz` delivers on its generic branch -/
def nazQaz (theta alpha tau : ℝ) : ℝ :=
  Real.arccos ((Real.cos tau - Real.sin alpha * Real.sin theta) / (Real.cos alpha * Real.cos theta))

theorem nazQazAngle_generic (theta alpha tau : ℝ) (hb : Scalar.isSmall (Real.cos alpha * Real.cos theta) = false)
    (hst : Scalar.isSmall (Real.sin tau) = false)
    (habs : |(Real.cos tau - Real.sin alpha * Real.sin theta) / (Real.cos alpha * Real.cos theta)| ≤ 1) :
    nazQazAngle theta alpha (some tau) = .ok (some (nazQaz theta alpha tau)) := by
  unfold nazQazAngle nazQaz
  simp only [rs_cos, rs_sin, hb, hst, Bool.false_and, Bool.false_eq_true, if_false, boundAcos_eq habs]
  rfl

/-- **completeness of `_calc_detector_con_det_or_naz`**: the detector position and the two azimuths of `P` are among the tuples it yields -/
theorem detOrNaz_complete (det : Option (DetCon ℝ)) (naz : Option ℝ) (theta alpha tau : ℝ) (delta nu zP : ℝ)
    (hD : DetSpec delta nu (qazOf delta nu) theta)
    (hrel : Real.cos (zP - qazOf delta nu) = (Real.cos tau - Real.sin alpha * Real.sin theta) / (Real.cos alpha * Real.cos theta))
    (hb : Scalar.isSmall (Real.cos alpha * Real.cos theta) = false) (hst : Scalar.isSmall (Real.sin tau) = false)
    (hsa : Scalar.isSmall (nazQaz theta alpha tau) = false)
    (hcarry : match det, naz with
      | some d, _ => DetCarries d delta nu ∧ DetRegular d delta nu theta
      | none, some v => SameAngle zP v ∧ Scalar.isSmall (Real.cos delta) = false
      | none, none => False) :
    ∃ ds, detOrNaz det naz theta (some tau) alpha = .ok ds ∧
      ∃ x ∈ ds, SameAngle x.1 (qazOf delta nu) ∧ (∃ z', x.2.1 = some z' ∧ SameAngle z' zP) ∧ SameAngle x.2.2.1 delta ∧ SameAngle x.2.2.2 nu := by
  have habs : |(Real.cos tau - Real.sin alpha * Real.sin theta) / (Real.cos alpha * Real.cos theta)| ≤ 1 := by
    rw [← hrel]; exact Real.abs_cos_le_one _
  have hnq := nazQazAngle_generic theta alpha tau hb hst habs
  have hcosa : Real.cos (nazQaz theta alpha tau) = Real.cos (zP - qazOf delta nu) := by
    rw [hrel, nazQaz, cos_arccos_of_abs_le habs]
  unfold detOrNaz
  cases det with
  | some d =>
    obtain ⟨trip, htrip, t, ht, t1, t2, t3⟩ := detRemaining_complete d delta nu theta hD hcarry.1 hcarry.2
    -- the solver lists `t.2.2 ± a` for naz, and `zP` is one of them
    obtain ⟨z', hz', hzs⟩ := exists_mem_pair (pm_roots zP t.2.2 (nazQaz theta alpha tau) (Real.arccos_nonneg _) (Real.arccos_le_pi _)
      (by rw [hcosa, Real.cos_sub, Real.cos_sub, t3.1, t3.2]))
    rw [if_neg (by simp), hnq, tryAssert_ok]
    refine yields_bind htrip (yields_ok (x := (t.2.2, some z', t.1, t.2.1)) (List.mem_flatMap.mpr ⟨t, ht, ?_⟩) ⟨t3, ⟨z', rfl, hzs⟩, t1, t2⟩)
    simpa [hsa] using hz'
  | none =>
    cases naz with
    | none => exact hcarry.elim
    | some v =>
      obtain ⟨hzv, hcd⟩ := hcarry
      -- the solver lists `v ± a` for qaz, and the azimuth of the position is one of them
      obtain ⟨q', hq', hqs⟩ := exists_mem_pair (pm_roots (qazOf delta nu) v (nazQaz theta alpha tau) (Real.arccos_nonneg _) (Real.arccos_le_pi _)
        (by rw [hcosa, ← Real.cos_neg, neg_sub, Real.cos_sub, Real.cos_sub, hzv.1, hzv.2]))
      obtain ⟨d, hd, d1, d2, _⟩ := detFromQaz_complete delta nu q' theta (detSpec_congr _ _ _ _ _ (sameAngle_symm hqs) hD) hcd
      rw [if_neg (by simp), hnq, tryAssert_ok]
      refine yields_ok (x := (q', some v, d.1, d.2.1)) (List.mem_flatMap.mpr ⟨q', ?_, List.mem_map.mpr ⟨d, hd, rfl⟩⟩)
        ⟨hqs, ⟨v, rfl, sameAngle_symm hzv⟩, d1, d2⟩
      simpa [hsa] using hq'

/-- **detector (or naz) + reference + one sample angle: completeness end to end** (112 mode shapes).  A position `P` whose forward model is
    the requested `hkl`, which honours the detector (or naz) constraint, whose laboratory reference direction `Z·n̂` has the elevation `alpha`
    the reference layer derived from the reference constraint (and some azimuth `zP`), and which carries the sample value, is among the
    candidates of `__calc_hkl_to_position`, every angle modulo 2π (`tau` is the angle between scattering and reference vector: `nphiAlphaTau_tau`).
    Side conditions: generic branch of each layer at `P`, and no sibling detector tuple makes the sample layer raise. -/
theorem detRefSamp_complete (ub : UBIn ℝ) (U : M3 ℝ) (hU : IsRot U) (hUB : ub.UB = M3.mul U ub.B) (hB : M3.det ub.B ≠ 0)
    (det : Option (DetCon ℝ)) (naz : Option ℝ) (ref : RefCon ℝ) (s : Samp1 ℝ) (hkl : V3 ℝ) (wl : ℝ) (hwl : 0 < wl)
    (hne : 0 < V3.norm (M3.mulVec ub.B hkl))
    (mu delta nu eta chi phi : ℝ)
    (hf : C04.fwd ub.UB mu delta nu eta chi phi wl = hkl)
    (hs : |Real.cos delta * Real.cos nu| < 1)
    (n : V3 ℝ) (alpha tau : ℝ)
    (hnat : nphiAlphaTau ub ref (M3.mulVec ub.UB hkl) (thetaOf delta nu) = .ok (n, alpha, tau))
    (hn : 0 < V3.norm n) (hx : (1e-7 : ℝ) < V3.norm (V3.cross (V3.unit (M3.mulVec ub.UB hkl)) (V3.unit n)))
    (zP : ℝ) (hnl : M3.mulVec (C04.Z mu eta chi phi) (V3.unit n) = nLab alpha (some zP))
    (hb : Scalar.isSmall (Real.cos alpha * Real.cos (thetaOf delta nu)) = false) (hst : Scalar.isSmall (Real.sin tau) = false)
    (hsa : Scalar.isSmall (nazQaz (thetaOf delta nu) alpha tau) = false)
    (hcarry : match det, naz with
      | some d, _ => DetCarries d delta nu ∧ DetRegular d delta nu (thetaOf delta nu)
      | none, some v => SameAngle zP v ∧ Scalar.isSmall (Real.cos delta) = false
      | none, none => False)
    (hgen : Samp1CompleteGeneric s (mu, eta, chi, phi))
    (hsib : ∀ N, calcN (M3.mulVec ub.UB hkl) n = .ok N → ∀ ds, detOrNaz det naz (thetaOf delta nu) (some tau) alpha = .ok ds →
      ∀ x ∈ ds, ∃ ys, remainingSample s (thetaOf delta nu) alpha x.1 x.2.1 N = .ok ys) :
    ∃ l, candidates ub (.detRefSamp det naz ref s) hkl wl = .ok l ∧ ∃ sol ∈ l, SamePosition sol mu delta nu eta chi phi := by
  obtain ⟨hpos, hcand, hD, hqhat⟩ := request_of_fwd ub U hU hUB hB (.detRefSamp det naz ref s) hkl wl hwl hne mu delta nu eta chi phi hf hs
  have hZrot := C04.isRot_Z mu eta chi phi
  -- the two azimuths of P differ by the angle the detector layer computes: `Z` keeps the angle tau between the two directions
  have hrel := naz_qaz_relation (thetaOf delta nu) (qazOf delta nu) alpha zP tau
    (by rw [← hqhat, ← hnl, hZrot.dot, nphiAlphaTau_tau ub ref _ _ n alpha tau hnat]) (not_small_ne_zero hb)
  obtain ⟨ds, hds, x, hxm, x1, ⟨z', hz', hzs⟩, x3, x4⟩ :=
    detOrNaz_complete det naz (thetaOf delta nu) alpha tau delta nu zP hD hrel hb hst hsa hcarry
  -- the phi-frame triad, the laboratory triad of P (the one the solver builds for the tuple `x`), and `Z · N_phi = N_lab`
  obtain ⟨N, hN, hNtri, hNrot, -⟩ := calcN_ok _ n hpos hn hx
  have hq1 := norm_qDir (thetaOf delta nu) (qazOf delta nu)
  have hn1 : V3.norm (nLab alpha (some zP)) = 1 := norm_qDir alpha zP
  have hxl : (1e-7 : ℝ) < V3.norm (V3.cross (V3.unit (qDir (thetaOf delta nu) (qazOf delta nu))) (V3.unit (nLab alpha (some zP)))) := by
    rw [V3.unit_of_norm_one hq1, V3.unit_of_norm_one hn1, ← hqhat, ← hnl, hZrot.cross, hZrot.norm]; exact hx
  obtain ⟨Nl, hNl, hNltri, hNlrot, -⟩ := calcN_ok _ _ (V3.norm_pos_of_norm_one hq1) (V3.norm_pos_of_norm_one hn1) hxl
  have hF : FullSpec Nl N (mu, eta, chi, phi) := by
    unfold FullSpec
    rw [hNtri, ← triadMat_rot hZrot, hqhat, hnl, hNltri, V3.unit_of_norm_one hq1, V3.unit_of_norm_one hn1]
  have hNl' : calcN (qDir (thetaOf delta nu) x.1) (nLab alpha x.2.1) = .ok Nl := by
    rw [qDir_congr _ _ _ x1, hz', nLab_some, qDir_congr _ _ _ hzs]; exact hNl
  obtain ⟨ls, hls, t, ht, hsame⟩ := remainingSample_complete s (thetaOf delta nu) alpha x.1 x.2.1 N Nl hNlrot hNrot hNl'
    (mu, eta, chi, phi) hF hgen
  rw [hcand]
  unfold layers detSampleReference
  refine yields_bind hnat (yields_bind hN (yields_bind hds (yields_forM' (fun y hy => ?_) hxm ?_)))
  · obtain ⟨ys, hys⟩ := hsib N hN ds hds y hy
    exact bind_total hys ⟨_, rfl⟩
  · exact yields_bind hls (yields_ok (List.mem_map.mpr ⟨t, ht, rfl⟩) ⟨hsame.1, x3, x4, hsame.2.1, hsame.2.2.1, hsame.2.2.2⟩)

/-! ## names this property's check refers to; each restates a fact proved elsewhere -/

theorem dot_rot (r : M3 ℝ) (hr : IsRot r) (u v : V3 ℝ) : V3.dot (M3.mulVec r u) (M3.mulVec r v) = V3.dot u v := hr.dot u v

end
end C03
