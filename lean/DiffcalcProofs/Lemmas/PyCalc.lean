import Diffcalc.Solver.Func
import DiffcalcProofs.Lemmas.Vector
/-!
# A small calculus for the `Py (List _)` generators of the solver model

* `AllOk P m`  — every element of a successfully produced list satisfies `P` (used for pass-through / soundness);
* `NoLeak m`   — if `m` fails, it fails with `DiffcalcException` (used for C11);
* `OnlyAD m`   — if `m` fails, it fails with `AssertionError` or `DiffcalcException` (what `try … except AssertionError` may see);
* `Yields Q m` — `m` succeeds and some element of its list satisfies `Q` (used for completeness; the dual of `AllOk`).
First what a `bind` and a generator loop `forM'` that succeeded, or failed, say about their parts (`bind_ok_inv`, `bind_error_inv`,
`forM'_ok_iff`, `mem_forM'`, `forM'_error`; `mapM` is a `forM'`), and how success is shown step by step (`bind_total`,
`ite_total`, `forM'_total`, `mapM_total`); the closure lemmas of the four predicates follow from these, each predicate under the
constructs its users meet: `AllOk` under `pure`, `bind`, `if`, `tryAssert`, `catchAssert`, `forM'`, `List.map`, `flatMap`;
`NoLeak` under `bind`, `if`, `forM'`, `mapM` and the three handlers `tryAssert`, `catchAssert`, `toDce`, which ask `OnlyAD` of what
they guard; `OnlyAD` under `bind`, `if`, `forM'`; `Yields` under `pure`, `bind`, `forM'`.  Then `bound`, the partial operations and
`angle_between_vectors` at ℝ.
-/
open Solver PyOps

variable {β γ : Type}

def AllOk (P : β → Prop) (m : Py (List β)) : Prop := ∀ l, m = .ok l → ∀ x ∈ l, P x
def NoLeak (m : Py β) : Prop := ∀ e, m = .error e → e = .dce
def OnlyAD (m : Py β) : Prop := ∀ e, m = .error e → e = .dce ∨ e = .assertion

/-! ## what a `bind`, a `forM'` that succeeded or failed says about its parts -/

theorem bind_ok_inv {m : Py γ} {f : γ → Py β} {b : β} (h : (m >>= f) = .ok b) : ∃ a, m = .ok a ∧ f a = .ok b := by
  cases m with
  | ok a => exact ⟨a, rfl, h⟩
  | error e => cases h

theorem bind_error_inv {m : Py γ} {f : γ → Py β} {e : PErr} (h : (m >>= f) = .error e) :
    m = .error e ∨ ∃ a, m = .ok a ∧ f a = .error e := by
  cases m with
  | ok a => exact .inr ⟨a, rfl, h⟩
  | error e' => cases h; exact .inl rfl

/-- a step whose result is not used and that does not raise can be skipped -/
theorem bind_const_ok {m : Py γ} {k : Py β} (h : ∃ a, m = .ok a) : (m >>= fun _ => k) = k := by
  obtain ⟨a, rfl⟩ := h; rfl

/-! success of a computation, step by step -/

theorem bind_total {m : Py γ} {f : γ → Py β} {a : γ} (hm : m = .ok a) (hf : ∃ b, f a = .ok b) : ∃ b, (m >>= f) = .ok b := by
  subst hm; exact hf

theorem ite_total {c : Prop} [Decidable c] {a b : Py β} (ha : c → ∃ x, a = .ok x) (hb : ¬c → ∃ x, b = .ok x) :
    ∃ x, (if c then a else b) = .ok x := by
  split
  · exact ha ‹_›
  · exact hb ‹_›

/-- if a nested generator loop fails, a body failed, with the same exception -/
theorem forM'_error {xs : List γ} {f : γ → Py (List β)} {e : PErr} (h : forM' xs f = .error e) : ∃ x ∈ xs, f x = .error e := by
  induction xs with
  | nil => cases h
  | cons a rest ih =>
    rcases bind_error_inv h with ha | ⟨ys, _, h⟩
    · exact ⟨a, List.mem_cons_self, ha⟩
    · rcases bind_error_inv h with hr | ⟨zs, _, h⟩
      · obtain ⟨x, hx, hfx⟩ := ih hr
        exact ⟨x, List.mem_cons_of_mem _ hx, hfx⟩
      · cases h

/-- so it succeeds iff every body does -/
theorem forM'_ok_iff {xs : List γ} {f : γ → Py (List β)} : (∃ l, forM' xs f = .ok l) ↔ ∀ x ∈ xs, ∃ ys, f x = .ok ys := by
  constructor
  · rintro ⟨l, hl⟩
    induction xs generalizing l with
    | nil => exact fun _ hx => nomatch hx
    | cons a rest ih =>
      obtain ⟨ya, hya, hl⟩ := bind_ok_inv hl
      obtain ⟨lr, hlr, _⟩ := bind_ok_inv hl
      exact List.forall_mem_cons.mpr ⟨⟨ya, hya⟩, ih lr hlr⟩
  · intro h
    cases hl : forM' xs f with
    | ok l => exact ⟨l, rfl⟩
    | error e =>
      obtain ⟨x, hx, he⟩ := forM'_error hl
      obtain ⟨ys, hys⟩ := h x hx
      rw [hys] at he
      cases he

/-- and then it yields exactly what its bodies yield -/
theorem mem_forM' {xs : List γ} {f : γ → Py (List β)} {l : List β} (h : forM' xs f = .ok l) {y : β} :
    y ∈ l ↔ ∃ x ∈ xs, ∃ ys, f x = .ok ys ∧ y ∈ ys := by
  induction xs generalizing l with
  | nil => cases h; exact ⟨fun h => (nomatch h), fun ⟨_, hx, _⟩ => (nomatch hx)⟩
  | cons a rest ih =>
    obtain ⟨ya, hya, h⟩ := bind_ok_inv h
    obtain ⟨lr, hlr, h⟩ := bind_ok_inv h
    cases h
    -- a member of `ya ++ lr` comes from the body at the head or, by `ih`, from a body of the rest
    simp only [List.mem_append, ih hlr, List.mem_cons, exists_eq_or_imp, hya, Except.ok.injEq, exists_eq_left']

/-- a loop all of whose bodies succeed succeeds, and holds everything its bodies yield -/
theorem forM'_total {xs : List γ} {f : γ → Py (List β)} (hall : ∀ x ∈ xs, ∃ ys, f x = .ok ys) :
    ∃ l, forM' xs f = .ok l ∧ ∀ x ∈ xs, ∀ ys, f x = .ok ys → ∀ y ∈ ys, y ∈ l :=
  let ⟨l, hl⟩ := forM'_ok_iff.mpr hall
  ⟨l, hl, fun x hx ys hys _ hy => (mem_forM' hl).mpr ⟨x, hx, ys, hys, hy⟩⟩

/-- `mapM` is the generator loop whose bodies yield one element each -/
theorem mapM_eq_forM' (f : β → Py γ) (xs : List β) : xs.mapM f = forM' xs fun x => f x >>= fun y => pure [y] := by
  induction xs with
  | nil => rfl
  | cons x xs ih => rw [List.mapM_cons, ih, forM']; cases f x <;> rfl

theorem mem_mapM_ok {f : β → Py γ} (xs : List β) (ys : List γ) (h : xs.mapM f = .ok ys) (y : γ) (hy : y ∈ ys) :
    ∃ x ∈ xs, f x = .ok y := by
  rw [mapM_eq_forM'] at h
  obtain ⟨x, hx, l, hl, hy⟩ := (mem_forM' h).mp hy
  obtain ⟨y', hy', e⟩ := bind_ok_inv hl
  cases e
  exact ⟨x, hx, by rwa [List.mem_singleton.mp hy]⟩

theorem mapM_total {f : β → Py γ} (xs : List β) (h : ∀ x ∈ xs, ∃ y, f x = .ok y) : ∃ l, xs.mapM f = .ok l := by
  rw [mapM_eq_forM']
  exact forM'_ok_iff.mpr fun x hx => let ⟨y, hy⟩ := h x hx; ⟨[y], by rw [hy]; rfl⟩

/-- and conversely: a `mapM` that succeeded had a body that succeeded on every member -/
theorem mapM_ok_all {f : β → Py γ} (xs : List β) (ys : List γ) (h : xs.mapM f = .ok ys) (x : β) (hx : x ∈ xs) : ∃ y, f x = .ok y := by
  rw [mapM_eq_forM'] at h
  obtain ⟨l, hl⟩ := forM'_ok_iff.mp ⟨ys, h⟩ x hx
  obtain ⟨y, hy, _⟩ := bind_ok_inv hl
  exact ⟨y, hy⟩

/-! ## `AllOk` -/

theorem allOk_ok {P : β → Prop} {l : List β} (h : ∀ x ∈ l, P x) : AllOk P (.ok l) := by
  intro l' hl; cases hl; exact h
theorem allOk_error {P : β → Prop} (e : PErr) : AllOk P (.error e : Py (List β)) := by
  intro l hl; cases hl
theorem allOk_nil {P : β → Prop} : AllOk P (.ok [] : Py (List β)) := allOk_ok (by simp)
theorem allOk_one {P : β → Prop} {t : β} (h : P t) : AllOk P (.ok [t]) := allOk_ok <| List.forall_mem_singleton.2 h
theorem allOk_ok_map {P : β → Prop} {l : List γ} {g : γ → β} (h : ∀ x, P (g x)) : AllOk P (.ok (l.map g)) :=
  allOk_ok <| List.forall_mem_map.2 fun x _ => h x

theorem allOk_mono {P Q : β → Prop} {m : Py (List β)} (h : AllOk P m) (hpq : ∀ x, P x → Q x) : AllOk Q m :=
  fun l hl x hx => hpq x (h l hl x hx)

@[simp] theorem tryAssert_ok (v : γ) (k : γ → Py (List β)) : tryAssert (.ok v) k = k v := rfl

theorem allOk_tryAssert {P : β → Prop} {m : Py γ} {k : γ → Py (List β)} (hk : ∀ v, m = .ok v → AllOk P (k v)) :
    AllOk P (tryAssert m k) := by
  unfold tryAssert
  split
  · exact allOk_nil
  · exact allOk_error _
  · exact hk _ rfl

/-- `try: … except AssertionError: return` around a whole generator is `tryAssert` with nothing after it -/
theorem catchAssert_eq (m : Py (List β)) : catchAssert m = tryAssert m .ok := by
  cases m with
  | ok l => rfl
  | error e => cases e <;> rfl

theorem allOk_catchAssert {P : β → Prop} {m : Py (List β)} (h : AllOk P m) : AllOk P (catchAssert m) := by
  rw [catchAssert_eq]; exact allOk_tryAssert fun v hv => hv ▸ h

theorem allOk_ite {P : β → Prop} {c : Prop} [Decidable c] {a b : Py (List β)} (ha : AllOk P a) (hb : AllOk P b) :
    AllOk P (if c then a else b) := by split <;> assumption

/-- a test that raises: what follows may assume it failed -/
theorem allOk_guard {P : β → Prop} {b : Bool} {e : PErr} {m : Py (List β)} (h : b = false → AllOk P m) :
    AllOk P (if b then .error e else m) := by
  cases b
  · exact h rfl
  · exact allOk_error e

theorem allOk_bind {P : β → Prop} {m : Py γ} {f : γ → Py (List β)} (h : ∀ a, m = .ok a → AllOk P (f a)) :
    AllOk P (m >>= f) := fun l hl =>
  let ⟨a, ha, hf⟩ := bind_ok_inv hl
  h a ha l hf

theorem allOk_forM' {P : β → Prop} (xs : List γ) (f : γ → Py (List β)) (h : ∀ x ∈ xs, AllOk P (f x)) :
    AllOk P (forM' xs f) := fun _ hl y hy =>
  let ⟨x, hx, ys, hys, hy⟩ := (mem_forM' hl).mp hy
  h x hx ys hys y hy

theorem allOk_map {P : β → Prop} {Q : γ → Prop} {m : Py (List γ)} (g : γ → β) (hm : AllOk Q m)
    (hg : ∀ x, Q x → P (g x)) : AllOk P (m >>= fun l => pure (l.map g)) :=
  allOk_bind fun l hl => allOk_ok fun y hy => by
    obtain ⟨x, hx, rfl⟩ := List.mem_map.mp hy
    exact hg x (hm l hl x hx)

theorem allOk_flatMap {P : β → Prop} {Q : γ → Prop} {m : Py (List γ)} (g : γ → List β) (hm : AllOk Q m)
    (hg : ∀ x, Q x → ∀ y ∈ g x, P y) : AllOk P (m >>= fun l => pure (l.flatMap g)) :=
  allOk_bind fun l hl => allOk_ok fun y hy => by
    obtain ⟨x, hx, hy⟩ := List.mem_flatMap.mp hy
    exact hg x (hm l hl x hx) y hy

/-! how the code's `if` moves through `.ok` and `List.map`, and membership in the list of pairs a double loop builds -/

theorem ok_ite {c : Prop} [Decidable c] (a b : β) : (if c then (.ok a : Py β) else .ok b) = .ok (if c then a else b) :=
  (apply_ite Except.ok c a b).symm

theorem map_ite (f : β → γ) {c : Prop} [Decidable c] (a b : List β) :
    (if c then a.map f else b.map f) = (if c then a else b).map f := (apply_ite (List.map f) c a b).symm

theorem mem_pairs {l₁ : List β} {l₂ : List γ} {a : β} {b : γ} :
    (a, b) ∈ l₁.flatMap (fun x => l₂.map fun y => (x, y)) ↔ a ∈ l₁ ∧ b ∈ l₂ := List.pair_mem_product

/-! ## `NoLeak`, `OnlyAD` -/

theorem noLeak_ok (a : β) : NoLeak (.ok a : Py β) := by intro e h; cases h
theorem noLeak_of_ok {m : Py β} {a : β} (h : m = .ok a) : NoLeak m := h ▸ noLeak_ok a
theorem noLeak_dce : NoLeak (.error .dce : Py β) := by intro e h; cases h; rfl
theorem onlyAD_ok (a : β) : OnlyAD (.ok a : Py β) := by intro e h; cases h
theorem onlyAD_dce : OnlyAD (.error .dce : Py β) := by intro e h; cases h; exact Or.inl rfl
theorem onlyAD_assert : OnlyAD (.error .assertion : Py β) := by intro e h; cases h; exact Or.inr rfl
theorem NoLeak.onlyAD {m : Py β} (h : NoLeak m) : OnlyAD m := fun e he => Or.inl (h e he)

theorem noLeak_bind {m : Py γ} {f : γ → Py β} (hm : NoLeak m) (hf : ∀ a, m = .ok a → NoLeak (f a)) : NoLeak (m >>= f) :=
  fun e he => (bind_error_inv he).elim (hm e) fun ⟨a, ha, h⟩ => hf a ha e h

theorem onlyAD_bind {m : Py γ} {f : γ → Py β} (hm : OnlyAD m) (hf : ∀ a, m = .ok a → OnlyAD (f a)) : OnlyAD (m >>= f) :=
  fun e he => (bind_error_inv he).elim (hm e) fun ⟨a, ha, h⟩ => hf a ha e h

/-- a computation that can only fail with DiffcalcException, followed by one that always does, fails with DiffcalcException -/
theorem bind_eq_dce {m : Py γ} {f : γ → Py β} (hm : NoLeak m) (hf : ∀ a, f a = .error .dce) : m >>= f = .error .dce := by
  cases h : m with
  | error e => rw [hm e h]; rfl
  | ok a => exact hf a

theorem noLeak_ite {c : Prop} [Decidable c] {a b : Py β} (ha : NoLeak a) (hb : NoLeak b) :
    NoLeak (if c then a else b) := by split <;> assumption
theorem onlyAD_ite {c : Prop} [Decidable c] {a b : Py β} (ha : OnlyAD a) (hb : OnlyAD b) :
    OnlyAD (if c then a else b) := by split <;> assumption

theorem noLeak_forM' (xs : List γ) (f : γ → Py (List β)) (h : ∀ x ∈ xs, NoLeak (f x)) : NoLeak (forM' xs f) :=
  fun e he => let ⟨x, hx, hfx⟩ := forM'_error he; h x hx e hfx

theorem onlyAD_forM' (xs : List γ) (f : γ → Py (List β)) (h : ∀ x ∈ xs, OnlyAD (f x)) : OnlyAD (forM' xs f) :=
  fun e he => let ⟨x, hx, hfx⟩ := forM'_error he; h x hx e hfx

theorem noLeak_mapM {f : γ → Py β} (h : ∀ x, NoLeak (f x)) (xs : List γ) : NoLeak (xs.mapM f) := by
  rw [mapM_eq_forM']
  exact noLeak_forM' _ _ fun x _ => noLeak_bind (h x) fun y _ => noLeak_ok _

/-! the three places where the code catches or converts an `AssertionError` -/

theorem noLeak_tryAssert {m : Py γ} {k : γ → Py (List β)} (hm : OnlyAD m) (hk : ∀ v, m = .ok v → NoLeak (k v)) :
    NoLeak (tryAssert m k) := by
  unfold tryAssert
  cases m with
  | ok v => exact hk v rfl
  | error e =>
    rcases hm e rfl with rfl | rfl
    · exact noLeak_dce
    · exact noLeak_ok _

theorem noLeak_catchAssert {m : Py (List β)} (h : OnlyAD m) : NoLeak (catchAssert m) := by
  rw [catchAssert_eq]; exact noLeak_tryAssert h fun v _ => noLeak_ok v

theorem noLeak_toDce {m : Py β} (hm : OnlyAD m) : NoLeak (toDce m) := by
  unfold toDce
  cases m with
  | ok v => exact noLeak_ok v
  | error e => rcases hm e rfl with rfl | rfl <;> exact noLeak_dce

section
variable {P : β → Prop}

/-! ## `Tame`: one walk over a generator for two properties, `AllOk` and `NoLeak` together

C02 asks of every branch of the sample, detector and reference layers that the tuples it yields carry the constrained axes, C11 that it
fails only with DiffcalcException.  Both follow the program text construct by construct, so each function is walked once, for the
conjunction; only inside a `catchAssert` (where an AssertionError is still allowed) the two halves are given separately. -/

/-- the generator `m` yields only elements satisfying `P`, and raises nothing but DiffcalcException -/
structure Tame {β : Type} (P : β → Prop) (m : Py (List β)) : Prop where
  allOk : AllOk P m
  noLeak : NoLeak m

theorem tame_ok {l : List β} (h : AllOk P (.ok l)) : Tame P (.ok l) := ⟨h, noLeak_ok l⟩
theorem tame_dce : Tame P (.error .dce) := ⟨allOk_error _, noLeak_dce⟩

theorem Tame.mono {Q : β → Prop} {m : Py (List β)} (h : Tame P m) (hpq : ∀ x, P x → Q x) : Tame Q m := ⟨allOk_mono h.1 hpq, h.2⟩

theorem tame_ite {c : Prop} [Decidable c] {a b : Py (List β)} (ha : Tame P a) (hb : Tame P b) : Tame P (if c then a else b) :=
  ⟨allOk_ite ha.1 hb.1, noLeak_ite ha.2 hb.2⟩

theorem tame_bind {m : Py γ} {f : γ → Py (List β)} (hm : NoLeak m) (hf : ∀ a, m = .ok a → Tame P (f a)) : Tame P (m >>= f) :=
  ⟨allOk_bind fun a ha => (hf a ha).1, noLeak_bind hm fun a ha => (hf a ha).2⟩

theorem tame_forM' {xs : List γ} {f : γ → Py (List β)} (h : ∀ x ∈ xs, Tame P (f x)) : Tame P (forM' xs f) :=
  ⟨allOk_forM' _ _ fun x hx => (h x hx).1, noLeak_forM' _ _ fun x hx => (h x hx).2⟩

/-- the guarded step may raise an AssertionError, which ends the generator silently -/
theorem tame_tryAssert {m : Py γ} {k : γ → Py (List β)} (hm : OnlyAD m) (hk : ∀ v, m = .ok v → Tame P (k v)) : Tame P (tryAssert m k) :=
  ⟨allOk_tryAssert fun v hv => (hk v hv).1, noLeak_tryAssert hm fun v hv => (hk v hv).2⟩

theorem tame_catchAssert {m : Py (List β)} (h : AllOk P m) (hm : OnlyAD m) : Tame P (catchAssert m) :=
  ⟨allOk_catchAssert h, noLeak_catchAssert hm⟩
end

/-! ## `Yields` -/

/-- `m` succeeds and some element of its list satisfies `Q` -/
def Yields (Q : β → Prop) (m : Py (List β)) : Prop := ∃ l, m = .ok l ∧ ∃ x ∈ l, Q x

theorem yields_ok {Q : β → Prop} {l : List β} {x : β} (hx : x ∈ l) (hq : Q x) : Yields Q (.ok l) := ⟨l, rfl, x, hx, hq⟩

theorem Yields.mono {Q R : β → Prop} {m : Py (List β)} (h : Yields Q m) (hqr : ∀ x, Q x → R x) : Yields R m := by
  obtain ⟨l, hl, x, hx, hq⟩ := h
  exact ⟨l, hl, x, hx, hqr x hq⟩

/-- soundness feeds completeness: in looking for a `Q` among what `m` yields, every candidate may be taken to satisfy what `m` is sound for -/
theorem Yields.of_allOk {P Q : β → Prop} {m : Py (List β)} (hs : AllOk P m) (h : Yields (fun x => P x → Q x) m) : Yields Q m :=
  let ⟨l, hl, x, hx, hq⟩ := h
  ⟨l, hl, x, hx, hq (hs l hl x hx)⟩

theorem yields_bind {Q : β → Prop} {m : Py γ} {a : γ} {f : γ → Py (List β)} (hm : m = .ok a) (h : Yields Q (f a)) :
    Yields Q (m >>= f) := by
  subst hm; exact h

/-- one body yields a `Q`, and no sibling raises (an exception in one generator ends the whole request) -/
theorem yields_forM' {Q : β → Prop} {xs : List γ} {f : γ → Py (List β)} (hall : ∀ x ∈ xs, ∃ ys, f x = .ok ys)
    {x : γ} (hx : x ∈ xs) (h : Yields Q (f x)) : Yields Q (forM' xs f) := by
  obtain ⟨l, hl, hmem⟩ := forM'_total hall
  obtain ⟨ys, hys, y, hy, hq⟩ := h
  exact ⟨l, hl, y, hmem x hx ys hys y hy, hq⟩

/-! ## the real-number reading of the partial operations -/

/-- `bound` refuses beyond `1 + 1e-7` and clamps to `[-1, 1]` otherwise -/
theorem bound_real (x : ℝ) :
    bound x = if 1 + 1e-7 < |x| then .error .assertion else .ok (max (-1) (min x 1)) := by
  unfold bound
  simp only [rs_lt, rs_one, rs_abs, rs_SMALL, decide_eq_true_eq]
  split_ifs with h0 h1 h2
  · rfl
  · rw [min_eq_right h1.le, max_eq_right (by norm_num)]
  · rw [min_eq_left (not_lt.mp h1), max_eq_left h2.le]
  · rw [min_eq_left (not_lt.mp h1), max_eq_right (not_lt.mp h2)]

theorem bound_id {x : ℝ} (h : |x| ≤ 1) : bound x = .ok x := by
  obtain ⟨l, u⟩ := abs_le.mp h
  rw [bound_real, if_neg (not_lt.mpr (h.trans (by norm_num))), min_eq_left u, max_eq_right l]

theorem bound_ok_abs {x y : ℝ} (h : bound x = .ok y) : |y| ≤ 1 := by
  rw [bound_real] at h
  split at h
  · cases h
  · cases h; exact abs_le.mpr ⟨le_max_left _ _, max_le (by norm_num) (min_le_right _ _)⟩

theorem bound_cases (x : ℝ) : (∃ y, bound x = .ok y ∧ |y| ≤ 1) ∨ bound x = .error .assertion := by
  cases h : bound x with
  | ok y => exact .inl ⟨y, rfl, bound_ok_abs h⟩
  | error e =>
    rw [bound_real] at h
    split at h <;> cases h
    exact .inr rfl

theorem onlyAD_bound (x : ℝ) : OnlyAD (bound x) := by
  rw [bound_real]; split
  · exact onlyAD_assert
  · exact onlyAD_ok _

theorem pyAsin_eq {y : ℝ} (h : |y| ≤ 1) : pyAsin y = .ok (Real.arcsin y) := by
  simp only [pyAsin, rs_lt, rs_one, rs_abs, decide_eq_true_eq, h.not_gt, if_false, rs_asin]
theorem pyAcos_eq {y : ℝ} (h : |y| ≤ 1) : pyAcos y = .ok (Real.arccos y) := by
  simp only [pyAcos, rs_lt, rs_one, rs_abs, decide_eq_true_eq, h.not_gt, if_false, rs_acos]
theorem pySqrt_eq {y : ℝ} (h : 0 ≤ y) : pySqrt y = .ok (Real.sqrt y) := by
  simp only [pySqrt, rs_lt, rs_zero, decide_eq_true_eq, h.not_gt, if_false, rs_sqrt]
theorem pyDiv_eq (x : ℝ) {y : ℝ} (h : y ≠ 0) : pyDiv x y = .ok (x / y) := by
  simp only [pyDiv, rs_beq, rs_zero, decide_eq_true_eq, h, if_false]

theorem onlyAD_sqrt_bind {f : ℝ → Py γ} {y : ℝ} (hy : 0 ≤ y) (hf : ∀ s, OnlyAD (f s)) : OnlyAD (pySqrt y >>= f) := by
  rw [pySqrt_eq hy]; exact hf _

/-- `asin(bound(x))` / `acos(bound(x))` inside the range: no clip, the principal value -/
theorem boundAsin_eq {x : ℝ} (h : |x| ≤ 1) : boundAsin x = .ok (Real.arcsin x) := by
  rw [boundAsin, bound_id h]; exact pyAsin_eq h
theorem boundAcos_eq {x : ℝ} (h : |x| ≤ 1) : boundAcos x = .ok (Real.arccos x) := by
  rw [boundAcos, bound_id h]; exact pyAcos_eq h

/-- … and anywhere: the only possible failure is the AssertionError of `bound` -/
theorem onlyAD_boundAsin (x : ℝ) : OnlyAD (boundAsin x) :=
  onlyAD_bind (onlyAD_bound x) fun y hy => by rw [pyAsin_eq (bound_ok_abs hy)]; exact onlyAD_ok _
theorem onlyAD_boundAcos (x : ℝ) : OnlyAD (boundAcos x) :=
  onlyAD_bind (onlyAD_bound x) fun y hy => by rw [pyAcos_eq (bound_ok_abs hy)]; exact onlyAD_ok _

/-- `angle_between_vectors` in closed form: degrees of the arccosine of the dot product of the two directions.  It never fails: by
    Cauchy–Schwarz the argument of `bound` is within [-1, 1], null vectors included -/
theorem angleBetween_eq (x y : V3 ℝ) : angleBetween x y = .ok (Scalar.toDeg (Real.arccos (V3.dot (V3.unit x) (V3.unit y)))) := by
  unfold angleBetween
  rw [rs_one, V3.smul_inv_norm, V3.smul_inv_norm, boundAcos_eq (V3.abs_dot_unit_le_one x y)]; rfl
