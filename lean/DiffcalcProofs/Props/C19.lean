import Diffcalc.Gen.FixedQ
import DiffcalcProofs.Lemmas.Vector
/-!
# C19 — the fixed-index / fixed-|Q| solver returns exactly the plane–sphere intersection

Model: `Gen/FixedQ.lean`, GENERATED from `src/diffcalc/util.py` on every run (tie T) — the theorems are re-checked
against what the code says now.

With one index fixed at `x`, the plane `n·v = d`, `n = (a,b,c)`, cuts a line out of index space, of direction
`w = e × n` (`e` the unit vector of the fixed index); along it `|B·v|² = q` is a quadratic in one of the two remaining
indices, the other being given by the plane.  What the generated polynomials are is said once per solver:
`divisor = |B·w|²` (`*_divisor_eq`) and `discriminant = divisor·q − |cof(B)·(x·n − d·e)|²` (`*_discriminant_eq`, the one
large polynomial check).  Since `w × v = x·n − d·e` for every `v` of the line, Lagrange's identity for `B·w`, `B·v`
(`lagrange_line`, `*_line`) is the completed square of the quadratic; each branch states it in the code's own
coefficient (`*_ident`).  From there on nothing depends on the solver: the roots, completeness and tangency are
proved for an abstract quadratic known through its completed square (`line_spec`), the control flow for its shape
(`solve_shape`), and each branch instantiates them once (`*_spec`).
-/
namespace C19
open Gen
noncomputable section

/-- Lagrange's identity for `B·w`, `B·v` when `w × v = t·m`: with `D = |B·w|²` and `Δ = D·q − |cof(B)·m|²`,
    `(B·w · B·v)² − t²·Δ = D·(|B·v|² − q·t²)` -/
theorem lagrange_line (B : M3 ℝ) (w v m : V3 ℝ) (t q : ℝ) (h : V3.cross w v = V3.smul t m) :
    V3.dot (M3.mulVec B w) (M3.mulVec B v) ^ 2
      - t ^ 2 * (V3.normSq (M3.mulVec B w) * q - V3.normSq (M3.mulVec (M3.transpose (M3.adj B)) m))
      = V3.normSq (M3.mulVec B w) * (V3.normSq (M3.mulVec B v) - q * t ^ 2) := by
  have : V3.normSq (V3.cross (M3.mulVec B w) (M3.mulVec B v)) = _ := V3.lagrange (M3.mulVec B w) (M3.mulVec B v)
  rw [M3.cross_mulVec, h, M3.mulVec_smul, V3.normSq_smul] at this
  simp only [V3.normSq] at this ⊢
  linear_combination this

/-! ## Plane, sphere, and a quadratic known through its completed square -/

def OnPlane (a b c d : ℝ) (v : ℝ × ℝ × ℝ) : Prop := a * v.1 + b * v.2.1 + c * v.2.2 = d
def OnSphere (B : M3 ℝ) (q : ℝ) (v : ℝ × ℝ × ℝ) : Prop := V3.normSq (M3.mulVec B ⟨v.1, v.2.1, v.2.2⟩) = q

/-- one predicate for the two conditions, so that `?S (?mk y z)` in `line_spec` is found by first-order unification -/
def OnBoth (a b c d : ℝ) (B : M3 ℝ) (q : ℝ) (v : ℝ × ℝ × ℝ) : Prop := OnPlane a b c d v ∧ OnSphere B q v

/-! `Q` stands for the sphere equation along the line, as a function of the unknown index; all that is used of it is
`D·Q r = (r·D + C)² − t²·Δ`.  The roots `r₁`, `r₂` enter through the equations they satisfy, so that the code's
expressions for them need no particular form.  The six branches differ in which index is fixed, which is derived from
the plane and which is the unknown: `mk y z` is the triple with derived index `y` and unknown index `z` in their places,
`o z` the derived index that the plane dictates. -/
section Quadratic
variable {D C Δ t s r₁ r₂ : ℝ} {Q : ℝ → ℝ}

theorem quad_eq_zero_iff (hid : ∀ r, (r * D + C) ^ 2 - t ^ 2 * Δ = D * Q r) (hD : D ≠ 0) (hs : s ^ 2 = Δ)
    (h₁ : r₁ * D + C = -(s * t)) (h₂ : r₂ * D + C = s * t) (r : ℝ) : Q r = 0 ↔ r = r₁ ∨ r = r₂ := by
  have key : D * Q r = ((r - r₁) * D) * ((r - r₂) * D) := by
    rw [← hid, ← hs]; linear_combination ((r - r₂) * D) * h₁ + (r * D + C + s * t) * h₂
  rw [← mul_right_inj' hD, mul_zero, key]
  simp [hD, sub_eq_zero]

theorem roots_eq_iff (hD : D ≠ 0) (ht : t ≠ 0) (hs : s ^ 2 = Δ)
    (h₁ : r₁ * D + C = -(s * t)) (h₂ : r₂ * D + C = s * t) : r₁ = r₂ ↔ Δ = 0 := by
  have h : (r₂ - r₁) * D = 2 * t * s := by linear_combination h₂ - h₁
  rw [← hs, sq_eq_zero_iff, eq_comm, ← sub_eq_zero, ← mul_left_inj' hD, zero_mul, h, mul_eq_zero,
    or_iff_right (mul_ne_zero two_ne_zero ht)]

variable {X : Type} {S : X → Prop} {mk : ℝ → ℝ → X} {o : ℝ → ℝ} {unk : X → ℝ}

/-- `v₁` and `v₂` are exactly the points `mk y z` in `S`, and they coincide exactly when `Δ = 0` -/
structure TwoRoots (S : X → Prop) (mk : ℝ → ℝ → X) (Δ : ℝ) (v₁ v₂ : X) : Prop where
  mem₁ : S v₁
  mem₂ : S v₂
  complete : ∀ y z, S (mk y z) → mk y z = v₁ ∨ mk y z = v₂
  eq_iff : v₁ = v₂ ↔ Δ = 0

/-- `hS`: `mk y z` lies in `S` exactly when `y` is what the plane dictates and `z` solves the quadratic; `unk` reads the unknown
    index off a point -/
theorem line_spec (hid : ∀ r, (r * D + C) ^ 2 - t ^ 2 * Δ = D * Q r)
    (hS : ∀ y z, S (mk y z) ↔ y = o z ∧ Q z = 0) (hunk : ∀ y z, unk (mk y z) = z)
    (hD : D ≠ 0) (ht : t ≠ 0) (hs : s ^ 2 = Δ) (h₁ : r₁ * D + C = -(s * t)) (h₂ : r₂ * D + C = s * t) :
    TwoRoots S mk Δ (mk (o r₁) r₁) (mk (o r₂) r₂) :=
  have hQ := quad_eq_zero_iff hid hD hs h₁ h₂
  { mem₁ := (hS _ _).mpr ⟨rfl, (hQ _).mpr (.inl rfl)⟩
    mem₂ := (hS _ _).mpr ⟨rfl, (hQ _).mpr (.inr rfl)⟩
    complete := fun y z h => by
      obtain ⟨rfl, hz⟩ := (hS y z).mp h
      exact ((hQ z).mp hz).imp (congrArg fun r => mk (o r) r) (congrArg fun r => mk (o r) r)
    eq_iff := by
      rw [← roots_eq_iff hD ht hs h₁ h₂]
      exact ⟨fun e => by simpa only [hunk] using congrArg unk e, congrArg fun r => mk (o r) r⟩ }

end Quadratic

/-- the control flow shared by the three generated `solve` functions -/
theorem solve_shape {V : Type} {D Δ t : ℝ} {T F : V × V} {Good : V → V → Prop} {Bad : Prop} {res : Py (List V)}
    (hres : res = if Scalar.beq D (Scalar.ofNat 0) then .error .dce else if Scalar.lt Δ (Scalar.ofNat 0) then .error .dce
      else if !(Scalar.beq t (Scalar.ofNat 0)) then .ok [T.1, T.2] else .ok [F.1, F.2])
    (hT : D ≠ 0 → 0 ≤ Δ → t ≠ 0 → Good T.1 T.2) (hF : D ≠ 0 → 0 ≤ Δ → t = 0 → Good F.1 F.2)
    (hBad : D ≠ 0 → Δ < 0 → Bad) :
    (∀ v1 v2, res = .ok [v1, v2] → Good v1 v2) ∧ (∀ e, res = .error e → e = .dce ∧ (D = 0 ∨ (Δ < 0 ∧ Bad))) ∧
    (∀ vs, res = .ok vs → vs.length = 2) := by
  subst hres
  simp only [rs_beq, rs_lt, rs_ofNat, Nat.cast_zero]
  by_cases hD : D = 0
  · simp [hD]
  by_cases hneg : Δ < 0
  · simp [hD, hneg, hBad hD hneg]
  by_cases ht : t = 0
  · simpa [hD, hneg, ht] using hF hD (not_lt.mp hneg) ht
  · simpa [hD, hneg, ht] using hT hD (not_lt.mp hneg) ht

/-! ## Plane and sphere in coordinates -/

theorem onPlane_fst {a : ℝ} (ha : a ≠ 0) (b c d h k l : ℝ) : OnPlane a b c d (h, k, l) ↔ h = (d - b * k - c * l) / a := by
  rw [eq_div_iff ha, OnPlane]; constructor <;> intro e <;> linear_combination e
theorem onPlane_snd {b : ℝ} (hb : b ≠ 0) (a c d h k l : ℝ) : OnPlane a b c d (h, k, l) ↔ k = (d - a * h - c * l) / b := by
  rw [eq_div_iff hb, OnPlane]; constructor <;> intro e <;> linear_combination e
theorem onPlane_thd {c : ℝ} (hc : c ≠ 0) (a b d h k l : ℝ) : OnPlane a b c d (h, k, l) ↔ l = (d - a * h - b * k) / c := by
  rw [eq_div_iff hc, OnPlane]; constructor <;> intro e <;> linear_combination e

/-- the sphere equation with all three indices scaled by `t` (the form the `*_quad` take once the plane is put in) -/
theorem onSphere_scaled (B : M3 ℝ) (q : ℝ) {t : ℝ} (ht : t ≠ 0) (h k l : ℝ) :
    OnSphere B q (h, k, l) ↔ V3.normSq (M3.mulVec B ⟨h * t, k * t, l * t⟩) - q * t ^ 2 = 0 := by
  have : (⟨h * t, k * t, l * t⟩ : V3 ℝ) = V3.smul t ⟨h, k, l⟩ := by ext <;> exact mul_comm _ _
  rw [this, M3.mulVec_smul, V3.normSq_smul, mul_comm q, ← mul_sub, mul_eq_zero, or_iff_right (pow_ne_zero 2 ht), sub_eq_zero]
  rfl

/-! ## `SolveH`: divisor and discriminant -/

/-- the divisor is the squared length of `B·w`, `w = (1,0,0) × (a,b,c)` the direction of the line -/
theorem h_divisor_eq (h qval : ℝ) (B : M3 ℝ) (a b c d : ℝ) :
    SolveH.divisor h qval B a b c d = V3.normSq (M3.mulVec B ⟨0, -c, b⟩) := by
  simp only [SolveH.divisor, rs_ofNat, V3.normSq, V3.dot, M3.mulVec]; ring

/-- for an invertible matrix the divisor vanishes exactly when both free coefficients vanish (the line is undefined) -/
theorem h_divisor_zero_iff (h qval : ℝ) (B : M3 ℝ) (a b c d : ℝ) (hdet : M3.det B ≠ 0) :
    SolveH.divisor h qval B a b c d = 0 ↔ (b = 0 ∧ c = 0) := by
  rw [h_divisor_eq, M3.normSq_mulVec_eq_zero hdet]; simp [and_comm]

/-- the discriminant is `divisor · q − |cof(B)·m|²` with `m = h·(a,b,c) − d·e`, `e` the unit vector of the fixed index -/
theorem h_discriminant_eq (h qval : ℝ) (B : M3 ℝ) (a b c d : ℝ) :
    SolveH.discriminant h qval B a b c d = SolveH.divisor h qval B a b c d * qval - V3.normSq (M3.mulVec (M3.transpose (M3.adj B)) ⟨h * a - d, h * b, h * c⟩) := by
  simp only [SolveH.divisor, SolveH.discriminant, rs_ofNat, V3.normSq, V3.dot, M3.mulVec, M3.transpose, M3.adj]
  ring

/-- Lagrange's identity along the line, for a point of the plane scaled by `t` -/
theorem h_line (h qval : ℝ) (B : M3 ℝ) (a b c d t k' l' : ℝ) (hp : a * (h * t) + b * k' + c * l' = d * t) :
    V3.dot (M3.mulVec B ⟨0, -c, b⟩) (M3.mulVec B ⟨h * t, k', l'⟩) ^ 2 - t ^ 2 * SolveH.discriminant h qval B a b c d
      = SolveH.divisor h qval B a b c d * (V3.normSq (M3.mulVec B ⟨h * t, k', l'⟩) - qval * t ^ 2) := by
  rw [h_discriminant_eq, h_divisor_eq]
  exact lagrange_line B _ _ _ t qval (by ext <;> simp only [V3.cross, V3.smul] <;> [linear_combination -hp; ring; ring])

/-- **rejection**: with a negative discriminant the plane misses the sphere (whatever the divisor and the coefficients) -/
theorem h_no_solution (h qval : ℝ) (B : M3 ℝ) (a b c d k l : ℝ) (hneg : SolveH.discriminant h qval B a b c d < 0)
    (hp : OnPlane a b c d (h, k, l)) : ¬ OnSphere B qval (h, k, l) := fun hq => by
  have key := h_line h qval B a b c d 1 k l (by rw [mul_one, mul_one]; exact hp)
  rw [mul_one, show V3.normSq (M3.mulVec B ⟨h, k, l⟩) = qval from hq] at key
  linarith [sq_nonneg (V3.dot (M3.mulVec B ⟨0, -c, b⟩) (M3.mulVec B ⟨h, k, l⟩))]


/-! ## `SolveH`, branch `b ≠ 0` (unknown `l` from the quadratic, `k` from the plane) -/

/-- `b²·(|B·(h,k,l)|² − q)` on the plane, as a function of the unknown `l` -/
def hT_quad (h qval : ℝ) (B : M3 ℝ) (a b c d l : ℝ) : ℝ :=
  V3.normSq (M3.mulVec B ⟨h * b, d - a * h - c * l, l * b⟩) - qval * b ^ 2

/-- the polynomial identity behind this branch, for EVERY value of `l` -/
theorem hT_ident (h qval : ℝ) (B : M3 ℝ) (a b c d l : ℝ) :
    (l * (SolveH.divisor h qval B a b c d) + (SolveH.coefT h qval B a b c d)) ^ 2 - b ^ 2 * (SolveH.discriminant h qval B a b c d) = (SolveH.divisor h qval B a b c d) * hT_quad h qval B a b c d l := by
  -- `h_line` at the point `b·(h, k, l)` of the scaled plane; what is left says that `B·w · B·v` is the linear term `l·divisor + coefT`
  rw [hT_quad, ← h_line h qval B a b c d b (d - a * h - c * l) (l * b) (by ring)]
  congr 2
  simp only [SolveH.divisor, SolveH.coefT, V3.dot, M3.mulVec, rs_ofNat]; ring

theorem hT_param (h qval : ℝ) (B : M3 ℝ) (a b c d : ℝ) (ht : b ≠ 0) (k l : ℝ) :
    OnBoth a b c d B qval (h, k, l) ↔ k = (d - a * h - c * l) / b ∧ hT_quad h qval B a b c d l = 0 := by
  rw [OnBoth, onPlane_snd ht, onSphere_scaled B qval ht]
  refine and_congr_right fun e => ?_
  rw [e, div_mul_cancel₀ _ ht, hT_quad]

/-- `r₁`, `r₂` are found by unifying `mk (o r₁) r₁`, `mk (o r₂) r₂` with the two triples of the generated `solTs` -/
theorem hT_spec (h qval : ℝ) (B : M3 ℝ) (a b c d s : ℝ) (hs : s ^ 2 = SolveH.discriminant h qval B a b c d) (hdv : SolveH.divisor h qval B a b c d ≠ 0) (ht : b ≠ 0) :
    TwoRoots (OnBoth a b c d B qval) (fun k l => (h, k, l)) (SolveH.discriminant h qval B a b c d) (SolveH.solTs s h qval B a b c d).1 (SolveH.solTs s h qval B a b c d).2 :=
  line_spec (hT_ident h qval B a b c d) (hT_param h qval B a b c d ht) (unk := fun v => v.2.2) (fun _ _ => rfl)
    hdv ht hs (by simp only [div_mul_cancel₀ _ hdv]; ring) (by simp only [div_mul_cancel₀ _ hdv]; ring)

/-- **soundness**: both returned triples keep the fixed index, lie on the plane and on the sphere -/
theorem hT_sound (h qval : ℝ) (B : M3 ℝ) (a b c d s : ℝ) (hs : s ^ 2 = (SolveH.discriminant h qval B a b c d)) (hdv : (SolveH.divisor h qval B a b c d) ≠ 0) (ht : b ≠ 0) :
    ((SolveH.solTs s h qval B a b c d).1.1 = h ∧ OnPlane a b c d (SolveH.solTs s h qval B a b c d).1 ∧ OnSphere B qval (SolveH.solTs s h qval B a b c d).1) ∧
    ((SolveH.solTs s h qval B a b c d).2.1 = h ∧ OnPlane a b c d (SolveH.solTs s h qval B a b c d).2 ∧ OnSphere B qval (SolveH.solTs s h qval B a b c d).2) :=
  ⟨⟨rfl, (hT_spec h qval B a b c d s hs hdv ht).mem₁⟩, ⟨rfl, (hT_spec h qval B a b c d s hs hdv ht).mem₂⟩⟩

/-- **completeness**: every point of the plane–sphere intersection with the fixed index is one of the two returned -/
theorem hT_complete (h qval : ℝ) (B : M3 ℝ) (a b c d s k l : ℝ) (hs : s ^ 2 = (SolveH.discriminant h qval B a b c d)) (hdv : (SolveH.divisor h qval B a b c d) ≠ 0) (ht : b ≠ 0)
    (hp : OnPlane a b c d (h, k, l)) (hq : OnSphere B qval (h, k, l)) :
    (h, k, l) = (SolveH.solTs s h qval B a b c d).1 ∨ (h, k, l) = (SolveH.solTs s h qval B a b c d).2 :=
  (hT_spec h qval B a b c d s hs hdv ht).complete k l ⟨hp, hq⟩

/-- **rejection**: with a negative discriminant the plane misses the sphere -/
theorem hT_no_solution (h qval : ℝ) (B : M3 ℝ) (a b c d k l : ℝ) (hneg : (SolveH.discriminant h qval B a b c d) < 0) (hdv : (SolveH.divisor h qval B a b c d) ≠ 0) (ht : b ≠ 0)
    (hp : OnPlane a b c d (h, k, l)) : ¬ OnSphere B qval (h, k, l) :=
  h_no_solution h qval B a b c d k l hneg hp

/-- **tangency**: the two returned triples coincide exactly when the discriminant vanishes -/
theorem hT_tangent (h qval : ℝ) (B : M3 ℝ) (a b c d s : ℝ) (hs : s ^ 2 = (SolveH.discriminant h qval B a b c d)) (hdv : (SolveH.divisor h qval B a b c d) ≠ 0) (ht : b ≠ 0) :
    (SolveH.solTs s h qval B a b c d).1 = (SolveH.solTs s h qval B a b c d).2 ↔ (SolveH.discriminant h qval B a b c d) = 0 :=
  (hT_spec h qval B a b c d s hs hdv ht).eq_iff


/-! ## `SolveH`, branch `b = 0` (unknown `k` from the quadratic, `l` from the plane) -/

/-- `c²·(|B·(h,k,l)|² − q)` on the plane, as a function of the unknown `k` -/
def hF_quad (h qval : ℝ) (B : M3 ℝ) (a c d k : ℝ) : ℝ :=
  V3.normSq (M3.mulVec B ⟨h * c, k * c, d - a * h⟩) - qval * c ^ 2

/-- the polynomial identity behind this branch, for EVERY value of `k` -/
theorem hF_ident (h qval : ℝ) (B : M3 ℝ) (a c d k : ℝ) :
    (k * (SolveH.divisor h qval B a 0 c d) - (SolveH.coefF h qval B a 0 c d)) ^ 2 - c ^ 2 * (SolveH.discriminant h qval B a 0 c d) = (SolveH.divisor h qval B a 0 c d) * hF_quad h qval B a c d k := by
  rw [hF_quad, ← h_line h qval B a 0 c d c (k * c) (d - a * h) (by ring), ← neg_sq]
  congr 2
  simp only [SolveH.divisor, SolveH.coefF, V3.dot, M3.mulVec, rs_ofNat]; ring

theorem hF_param (h qval : ℝ) (B : M3 ℝ) (a c d : ℝ) (ht : c ≠ 0) (l k : ℝ) :
    OnBoth a 0 c d B qval (h, k, l) ↔ l = (d - a * h - 0 * k) / c ∧ hF_quad h qval B a c d k = 0 := by
  rw [OnBoth, onPlane_thd ht, onSphere_scaled B qval ht]
  refine and_congr_right fun e => ?_
  rw [e, div_mul_cancel₀ _ ht, zero_mul, sub_zero, hF_quad]

theorem hF_spec (h qval : ℝ) (B : M3 ℝ) (a c d s : ℝ) (hs : s ^ 2 = SolveH.discriminant h qval B a 0 c d) (hdv : SolveH.divisor h qval B a 0 c d ≠ 0) (ht : c ≠ 0) :
    TwoRoots (OnBoth a 0 c d B qval) (fun l k => (h, k, l)) (SolveH.discriminant h qval B a 0 c d) (SolveH.solFs s h qval B a 0 c d).1 (SolveH.solFs s h qval B a 0 c d).2 :=
  line_spec (fun k => sub_eq_add_neg (k * _) _ ▸ hF_ident h qval B a c d k) (hF_param h qval B a c d ht) (unk := fun v => v.2.1) (fun _ _ => rfl)
    hdv ht hs (by simp only [div_mul_cancel₀ _ hdv]; ring) (by simp only [div_mul_cancel₀ _ hdv]; ring)

/-- **soundness**: both returned triples keep the fixed index, lie on the plane and on the sphere -/
theorem hF_sound (h qval : ℝ) (B : M3 ℝ) (a c d s : ℝ) (hs : s ^ 2 = (SolveH.discriminant h qval B a 0 c d)) (hdv : (SolveH.divisor h qval B a 0 c d) ≠ 0) (ht : c ≠ 0) :
    ((SolveH.solFs s h qval B a 0 c d).1.1 = h ∧ OnPlane a 0 c d (SolveH.solFs s h qval B a 0 c d).1 ∧ OnSphere B qval (SolveH.solFs s h qval B a 0 c d).1) ∧
    ((SolveH.solFs s h qval B a 0 c d).2.1 = h ∧ OnPlane a 0 c d (SolveH.solFs s h qval B a 0 c d).2 ∧ OnSphere B qval (SolveH.solFs s h qval B a 0 c d).2) :=
  ⟨⟨rfl, (hF_spec h qval B a c d s hs hdv ht).mem₁⟩, ⟨rfl, (hF_spec h qval B a c d s hs hdv ht).mem₂⟩⟩

/-- **completeness**: every point of the plane–sphere intersection with the fixed index is one of the two returned -/
theorem hF_complete (h qval : ℝ) (B : M3 ℝ) (a c d s k l : ℝ) (hs : s ^ 2 = (SolveH.discriminant h qval B a 0 c d)) (hdv : (SolveH.divisor h qval B a 0 c d) ≠ 0) (ht : c ≠ 0)
    (hp : OnPlane a 0 c d (h, k, l)) (hq : OnSphere B qval (h, k, l)) :
    (h, k, l) = (SolveH.solFs s h qval B a 0 c d).1 ∨ (h, k, l) = (SolveH.solFs s h qval B a 0 c d).2 :=
  (hF_spec h qval B a c d s hs hdv ht).complete l k ⟨hp, hq⟩

/-- **rejection**: with a negative discriminant the plane misses the sphere -/
theorem hF_no_solution (h qval : ℝ) (B : M3 ℝ) (a c d k l : ℝ) (hneg : (SolveH.discriminant h qval B a 0 c d) < 0) (hdv : (SolveH.divisor h qval B a 0 c d) ≠ 0) (ht : c ≠ 0)
    (hp : OnPlane a 0 c d (h, k, l)) : ¬ OnSphere B qval (h, k, l) :=
  h_no_solution h qval B a 0 c d k l hneg hp

/-- **tangency**: the two returned triples coincide exactly when the discriminant vanishes -/
theorem hF_tangent (h qval : ℝ) (B : M3 ℝ) (a c d s : ℝ) (hs : s ^ 2 = (SolveH.discriminant h qval B a 0 c d)) (hdv : (SolveH.divisor h qval B a 0 c d) ≠ 0) (ht : c ≠ 0) :
    (SolveH.solFs s h qval B a 0 c d).1 = (SolveH.solFs s h qval B a 0 c d).2 ↔ (SolveH.discriminant h qval B a 0 c d) = 0 :=
  (hF_spec h qval B a c d s hs hdv ht).eq_iff


/-! ## `SolveH.solve` -/

/-- **C19 for `solve_h_fixed_q`**: what the function returns, in every case -/
theorem h_solve_spec (h qval : ℝ) (B : M3 ℝ) (a b c d : ℝ) :
    (∀ v1 v2, SolveH.solve h qval B a b c d = .ok [v1, v2] →
        (v1.1 = h ∧ OnPlane a b c d v1 ∧ OnSphere B qval v1) ∧ (v2.1 = h ∧ OnPlane a b c d v2 ∧ OnSphere B qval v2) ∧
        (∀ k l, OnPlane a b c d (h, k, l) → OnSphere B qval (h, k, l) → (h, k, l) = v1 ∨ (h, k, l) = v2) ∧
        (v1 = v2 ↔ SolveH.discriminant h qval B a b c d = 0)) ∧
    (∀ e, SolveH.solve h qval B a b c d = .error e → e = .dce ∧
        (SolveH.divisor h qval B a b c d = 0 ∨ (SolveH.discriminant h qval B a b c d < 0 ∧ ∀ k l, OnPlane a b c d (h, k, l) → ¬ OnSphere B qval (h, k, l)))) ∧
    (∀ vs, SolveH.solve h qval B a b c d = .ok vs → vs.length = 2) := by
  have htf : b = 0 → SolveH.divisor h qval B a b c d ≠ 0 → c ≠ 0 := by
    rintro rfl hdv rfl; exact hdv (by simp [SolveH.divisor])
  refine solve_shape (t := b) rfl (fun hdv hnn ht => ?_) (fun hdv hnn ht => ?_) (fun _ hneg k l => h_no_solution h qval B a b c d k l hneg)
  · have H := hT_spec h qval B a b c d _ (Real.sq_sqrt hnn) hdv ht
    exact ⟨⟨rfl, H.mem₁⟩, ⟨rfl, H.mem₂⟩, fun k l hp hq => H.complete k l ⟨hp, hq⟩, H.eq_iff⟩
  · have ht' := htf ht hdv; subst ht
    have H := hF_spec h qval B a c d _ (Real.sq_sqrt hnn) hdv ht'
    exact ⟨⟨rfl, H.mem₁⟩, ⟨rfl, H.mem₂⟩, fun k l hp hq => H.complete l k ⟨hp, hq⟩, H.eq_iff⟩

/-! ## `SolveK`: divisor and discriminant -/

/-- the divisor is the squared length of `B·w`, `w = (0,1,0) × (a,b,c)` the direction of the line -/
theorem k_divisor_eq (k qval : ℝ) (B : M3 ℝ) (a b c d : ℝ) :
    SolveK.divisor k qval B a b c d = V3.normSq (M3.mulVec B ⟨c, 0, -a⟩) := by
  simp only [SolveK.divisor, rs_ofNat, V3.normSq, V3.dot, M3.mulVec]; ring

/-- for an invertible matrix the divisor vanishes exactly when both free coefficients vanish (the line is undefined) -/
theorem k_divisor_zero_iff (k qval : ℝ) (B : M3 ℝ) (a b c d : ℝ) (hdet : M3.det B ≠ 0) :
    SolveK.divisor k qval B a b c d = 0 ↔ (a = 0 ∧ c = 0) := by
  rw [k_divisor_eq, M3.normSq_mulVec_eq_zero hdet]; simp [and_comm]

/-- the discriminant is `divisor · q − |cof(B)·m|²` with `m = k·(a,b,c) − d·e`, `e` the unit vector of the fixed index -/
theorem k_discriminant_eq (k qval : ℝ) (B : M3 ℝ) (a b c d : ℝ) :
    SolveK.discriminant k qval B a b c d = SolveK.divisor k qval B a b c d * qval - V3.normSq (M3.mulVec (M3.transpose (M3.adj B)) ⟨k * a, k * b - d, k * c⟩) := by
  simp only [SolveK.divisor, SolveK.discriminant, rs_ofNat, V3.normSq, V3.dot, M3.mulVec, M3.transpose, M3.adj]
  ring

/-- Lagrange's identity along the line, for a point of the plane scaled by `t` -/
theorem k_line (k qval : ℝ) (B : M3 ℝ) (a b c d t h' l' : ℝ) (hp : a * h' + b * (k * t) + c * l' = d * t) :
    V3.dot (M3.mulVec B ⟨c, 0, -a⟩) (M3.mulVec B ⟨h', k * t, l'⟩) ^ 2 - t ^ 2 * SolveK.discriminant k qval B a b c d
      = SolveK.divisor k qval B a b c d * (V3.normSq (M3.mulVec B ⟨h', k * t, l'⟩) - qval * t ^ 2) := by
  rw [k_discriminant_eq, k_divisor_eq]
  exact lagrange_line B _ _ _ t qval (by ext <;> simp only [V3.cross, V3.smul] <;> [ring; linear_combination -hp; ring])

/-- **rejection**: with a negative discriminant the plane misses the sphere (whatever the divisor and the coefficients) -/
theorem k_no_solution (k qval : ℝ) (B : M3 ℝ) (a b c d h l : ℝ) (hneg : SolveK.discriminant k qval B a b c d < 0)
    (hp : OnPlane a b c d (h, k, l)) : ¬ OnSphere B qval (h, k, l) := fun hq => by
  have key := k_line k qval B a b c d 1 h l (by rw [mul_one, mul_one]; exact hp)
  rw [mul_one, show V3.normSq (M3.mulVec B ⟨h, k, l⟩) = qval from hq] at key
  linarith [sq_nonneg (V3.dot (M3.mulVec B ⟨c, 0, -a⟩) (M3.mulVec B ⟨h, k, l⟩))]


/-! ## `SolveK`, branch `a ≠ 0` (unknown `l` from the quadratic, `h` from the plane) -/

/-- `a²·(|B·(h,k,l)|² − q)` on the plane, as a function of the unknown `l` -/
def kT_quad (k qval : ℝ) (B : M3 ℝ) (a b c d l : ℝ) : ℝ :=
  V3.normSq (M3.mulVec B ⟨d - b * k - c * l, k * a, l * a⟩) - qval * a ^ 2

/-- the polynomial identity behind this branch, for EVERY value of `l` -/
theorem kT_ident (k qval : ℝ) (B : M3 ℝ) (a b c d l : ℝ) :
    (l * (SolveK.divisor k qval B a b c d) + (SolveK.coefT k qval B a b c d)) ^ 2 - a ^ 2 * (SolveK.discriminant k qval B a b c d) = (SolveK.divisor k qval B a b c d) * kT_quad k qval B a b c d l := by
  rw [kT_quad, ← k_line k qval B a b c d a (d - b * k - c * l) (l * a) (by ring), ← neg_sq]
  congr 2
  simp only [SolveK.divisor, SolveK.coefT, V3.dot, M3.mulVec, rs_ofNat]; ring

theorem kT_param (k qval : ℝ) (B : M3 ℝ) (a b c d : ℝ) (ht : a ≠ 0) (h l : ℝ) :
    OnBoth a b c d B qval (h, k, l) ↔ h = (d - b * k - c * l) / a ∧ kT_quad k qval B a b c d l = 0 := by
  rw [OnBoth, onPlane_fst ht, onSphere_scaled B qval ht]
  refine and_congr_right fun e => ?_
  rw [e, div_mul_cancel₀ _ ht, kT_quad]

theorem kT_spec (k qval : ℝ) (B : M3 ℝ) (a b c d s : ℝ) (hs : s ^ 2 = SolveK.discriminant k qval B a b c d) (hdv : SolveK.divisor k qval B a b c d ≠ 0) (ht : a ≠ 0) :
    TwoRoots (OnBoth a b c d B qval) (fun h l => (h, k, l)) (SolveK.discriminant k qval B a b c d) (SolveK.solTs s k qval B a b c d).1 (SolveK.solTs s k qval B a b c d).2 :=
  line_spec (kT_ident k qval B a b c d) (kT_param k qval B a b c d ht) (unk := fun v => v.2.2) (fun _ _ => rfl)
    hdv ht hs (by simp only [div_mul_cancel₀ _ hdv]; ring) (by simp only [div_mul_cancel₀ _ hdv]; ring)

/-- **soundness**: both returned triples keep the fixed index, lie on the plane and on the sphere -/
theorem kT_sound (k qval : ℝ) (B : M3 ℝ) (a b c d s : ℝ) (hs : s ^ 2 = (SolveK.discriminant k qval B a b c d)) (hdv : (SolveK.divisor k qval B a b c d) ≠ 0) (ht : a ≠ 0) :
    ((SolveK.solTs s k qval B a b c d).1.2.1 = k ∧ OnPlane a b c d (SolveK.solTs s k qval B a b c d).1 ∧ OnSphere B qval (SolveK.solTs s k qval B a b c d).1) ∧
    ((SolveK.solTs s k qval B a b c d).2.2.1 = k ∧ OnPlane a b c d (SolveK.solTs s k qval B a b c d).2 ∧ OnSphere B qval (SolveK.solTs s k qval B a b c d).2) :=
  ⟨⟨rfl, (kT_spec k qval B a b c d s hs hdv ht).mem₁⟩, ⟨rfl, (kT_spec k qval B a b c d s hs hdv ht).mem₂⟩⟩

/-- **completeness**: every point of the plane–sphere intersection with the fixed index is one of the two returned -/
theorem kT_complete (k qval : ℝ) (B : M3 ℝ) (a b c d s h l : ℝ) (hs : s ^ 2 = (SolveK.discriminant k qval B a b c d)) (hdv : (SolveK.divisor k qval B a b c d) ≠ 0) (ht : a ≠ 0)
    (hp : OnPlane a b c d (h, k, l)) (hq : OnSphere B qval (h, k, l)) :
    (h, k, l) = (SolveK.solTs s k qval B a b c d).1 ∨ (h, k, l) = (SolveK.solTs s k qval B a b c d).2 :=
  (kT_spec k qval B a b c d s hs hdv ht).complete h l ⟨hp, hq⟩

/-- **rejection**: with a negative discriminant the plane misses the sphere -/
theorem kT_no_solution (k qval : ℝ) (B : M3 ℝ) (a b c d h l : ℝ) (hneg : (SolveK.discriminant k qval B a b c d) < 0) (hdv : (SolveK.divisor k qval B a b c d) ≠ 0) (ht : a ≠ 0)
    (hp : OnPlane a b c d (h, k, l)) : ¬ OnSphere B qval (h, k, l) :=
  k_no_solution k qval B a b c d h l hneg hp

/-- **tangency**: the two returned triples coincide exactly when the discriminant vanishes -/
theorem kT_tangent (k qval : ℝ) (B : M3 ℝ) (a b c d s : ℝ) (hs : s ^ 2 = (SolveK.discriminant k qval B a b c d)) (hdv : (SolveK.divisor k qval B a b c d) ≠ 0) (ht : a ≠ 0) :
    (SolveK.solTs s k qval B a b c d).1 = (SolveK.solTs s k qval B a b c d).2 ↔ (SolveK.discriminant k qval B a b c d) = 0 :=
  (kT_spec k qval B a b c d s hs hdv ht).eq_iff


/-! ## `SolveK`, branch `a = 0` (unknown `h` from the quadratic, `l` from the plane) -/

/-- `c²·(|B·(h,k,l)|² − q)` on the plane, as a function of the unknown `h` -/
def kF_quad (k qval : ℝ) (B : M3 ℝ) (b c d h : ℝ) : ℝ :=
  V3.normSq (M3.mulVec B ⟨h * c, k * c, d - b * k⟩) - qval * c ^ 2

/-- the polynomial identity behind this branch, for EVERY value of `h` -/
theorem kF_ident (k qval : ℝ) (B : M3 ℝ) (b c d h : ℝ) :
    (h * (SolveK.divisor k qval B 0 b c d) - (SolveK.coefF k qval B 0 b c d)) ^ 2 - c ^ 2 * (SolveK.discriminant k qval B 0 b c d) = (SolveK.divisor k qval B 0 b c d) * kF_quad k qval B b c d h := by
  rw [kF_quad, ← k_line k qval B 0 b c d c (h * c) (d - b * k) (by ring)]
  congr 2
  simp only [SolveK.divisor, SolveK.coefF, V3.dot, M3.mulVec, rs_ofNat]; ring

theorem kF_param (k qval : ℝ) (B : M3 ℝ) (b c d : ℝ) (ht : c ≠ 0) (l h : ℝ) :
    OnBoth 0 b c d B qval (h, k, l) ↔ l = (d - 0 * h - b * k) / c ∧ kF_quad k qval B b c d h = 0 := by
  rw [OnBoth, onPlane_thd ht, onSphere_scaled B qval ht]
  refine and_congr_right fun e => ?_
  rw [e, div_mul_cancel₀ _ ht, zero_mul, sub_zero, kF_quad]

theorem kF_spec (k qval : ℝ) (B : M3 ℝ) (b c d s : ℝ) (hs : s ^ 2 = SolveK.discriminant k qval B 0 b c d) (hdv : SolveK.divisor k qval B 0 b c d ≠ 0) (ht : c ≠ 0) :
    TwoRoots (OnBoth 0 b c d B qval) (fun l h => (h, k, l)) (SolveK.discriminant k qval B 0 b c d) (SolveK.solFs s k qval B 0 b c d).1 (SolveK.solFs s k qval B 0 b c d).2 :=
  line_spec (fun h => sub_eq_add_neg (h * _) _ ▸ kF_ident k qval B b c d h) (kF_param k qval B b c d ht) (unk := fun v => v.1) (fun _ _ => rfl)
    hdv ht hs (by simp only [div_mul_cancel₀ _ hdv]; ring) (by simp only [div_mul_cancel₀ _ hdv]; ring)

/-- **soundness**: both returned triples keep the fixed index, lie on the plane and on the sphere -/
theorem kF_sound (k qval : ℝ) (B : M3 ℝ) (b c d s : ℝ) (hs : s ^ 2 = (SolveK.discriminant k qval B 0 b c d)) (hdv : (SolveK.divisor k qval B 0 b c d) ≠ 0) (ht : c ≠ 0) :
    ((SolveK.solFs s k qval B 0 b c d).1.2.1 = k ∧ OnPlane 0 b c d (SolveK.solFs s k qval B 0 b c d).1 ∧ OnSphere B qval (SolveK.solFs s k qval B 0 b c d).1) ∧
    ((SolveK.solFs s k qval B 0 b c d).2.2.1 = k ∧ OnPlane 0 b c d (SolveK.solFs s k qval B 0 b c d).2 ∧ OnSphere B qval (SolveK.solFs s k qval B 0 b c d).2) :=
  ⟨⟨rfl, (kF_spec k qval B b c d s hs hdv ht).mem₁⟩, ⟨rfl, (kF_spec k qval B b c d s hs hdv ht).mem₂⟩⟩

/-- **completeness**: every point of the plane–sphere intersection with the fixed index is one of the two returned -/
theorem kF_complete (k qval : ℝ) (B : M3 ℝ) (b c d s h l : ℝ) (hs : s ^ 2 = (SolveK.discriminant k qval B 0 b c d)) (hdv : (SolveK.divisor k qval B 0 b c d) ≠ 0) (ht : c ≠ 0)
    (hp : OnPlane 0 b c d (h, k, l)) (hq : OnSphere B qval (h, k, l)) :
    (h, k, l) = (SolveK.solFs s k qval B 0 b c d).1 ∨ (h, k, l) = (SolveK.solFs s k qval B 0 b c d).2 :=
  (kF_spec k qval B b c d s hs hdv ht).complete l h ⟨hp, hq⟩

/-- **rejection**: with a negative discriminant the plane misses the sphere -/
theorem kF_no_solution (k qval : ℝ) (B : M3 ℝ) (b c d h l : ℝ) (hneg : (SolveK.discriminant k qval B 0 b c d) < 0) (hdv : (SolveK.divisor k qval B 0 b c d) ≠ 0) (ht : c ≠ 0)
    (hp : OnPlane 0 b c d (h, k, l)) : ¬ OnSphere B qval (h, k, l) :=
  k_no_solution k qval B 0 b c d h l hneg hp

/-- **tangency**: the two returned triples coincide exactly when the discriminant vanishes -/
theorem kF_tangent (k qval : ℝ) (B : M3 ℝ) (b c d s : ℝ) (hs : s ^ 2 = (SolveK.discriminant k qval B 0 b c d)) (hdv : (SolveK.divisor k qval B 0 b c d) ≠ 0) (ht : c ≠ 0) :
    (SolveK.solFs s k qval B 0 b c d).1 = (SolveK.solFs s k qval B 0 b c d).2 ↔ (SolveK.discriminant k qval B 0 b c d) = 0 :=
  (kF_spec k qval B b c d s hs hdv ht).eq_iff


/-! ## `SolveK.solve` -/

/-- **C19 for `solve_k_fixed_q`**: what the function returns, in every case -/
theorem k_solve_spec (k qval : ℝ) (B : M3 ℝ) (a b c d : ℝ) :
    (∀ v1 v2, SolveK.solve k qval B a b c d = .ok [v1, v2] →
        (v1.2.1 = k ∧ OnPlane a b c d v1 ∧ OnSphere B qval v1) ∧ (v2.2.1 = k ∧ OnPlane a b c d v2 ∧ OnSphere B qval v2) ∧
        (∀ h l, OnPlane a b c d (h, k, l) → OnSphere B qval (h, k, l) → (h, k, l) = v1 ∨ (h, k, l) = v2) ∧
        (v1 = v2 ↔ SolveK.discriminant k qval B a b c d = 0)) ∧
    (∀ e, SolveK.solve k qval B a b c d = .error e → e = .dce ∧
        (SolveK.divisor k qval B a b c d = 0 ∨ (SolveK.discriminant k qval B a b c d < 0 ∧ ∀ h l, OnPlane a b c d (h, k, l) → ¬ OnSphere B qval (h, k, l)))) ∧
    (∀ vs, SolveK.solve k qval B a b c d = .ok vs → vs.length = 2) := by
  have htf : a = 0 → SolveK.divisor k qval B a b c d ≠ 0 → c ≠ 0 := by
    rintro rfl hdv rfl; exact hdv (by simp [SolveK.divisor])
  refine solve_shape (t := a) rfl (fun hdv hnn ht => ?_) (fun hdv hnn ht => ?_) (fun _ hneg h l => k_no_solution k qval B a b c d h l hneg)
  · have H := kT_spec k qval B a b c d _ (Real.sq_sqrt hnn) hdv ht
    exact ⟨⟨rfl, H.mem₁⟩, ⟨rfl, H.mem₂⟩, fun h l hp hq => H.complete h l ⟨hp, hq⟩, H.eq_iff⟩
  · have ht' := htf ht hdv; subst ht
    have H := kF_spec k qval B b c d _ (Real.sq_sqrt hnn) hdv ht'
    exact ⟨⟨rfl, H.mem₁⟩, ⟨rfl, H.mem₂⟩, fun h l hp hq => H.complete l h ⟨hp, hq⟩, H.eq_iff⟩

/-! ## `SolveL`: divisor and discriminant -/

/-- the divisor is the squared length of `B·w`, `w = (0,0,1) × (a,b,c)` the direction of the line -/
theorem l_divisor_eq (l qval : ℝ) (B : M3 ℝ) (a b c d : ℝ) :
    SolveL.divisor l qval B a b c d = V3.normSq (M3.mulVec B ⟨-b, a, 0⟩) := by
  simp only [SolveL.divisor, rs_ofNat, V3.normSq, V3.dot, M3.mulVec]; ring

/-- for an invertible matrix the divisor vanishes exactly when both free coefficients vanish (the line is undefined) -/
theorem l_divisor_zero_iff (l qval : ℝ) (B : M3 ℝ) (a b c d : ℝ) (hdet : M3.det B ≠ 0) :
    SolveL.divisor l qval B a b c d = 0 ↔ (a = 0 ∧ b = 0) := by
  rw [l_divisor_eq, M3.normSq_mulVec_eq_zero hdet]; simp [and_comm]

/-- the discriminant is `divisor · q − |cof(B)·m|²` with `m = l·(a,b,c) − d·e`, `e` the unit vector of the fixed index -/
theorem l_discriminant_eq (l qval : ℝ) (B : M3 ℝ) (a b c d : ℝ) :
    SolveL.discriminant l qval B a b c d = SolveL.divisor l qval B a b c d * qval - V3.normSq (M3.mulVec (M3.transpose (M3.adj B)) ⟨l * a, l * b, l * c - d⟩) := by
  simp only [SolveL.divisor, SolveL.discriminant, rs_ofNat, V3.normSq, V3.dot, M3.mulVec, M3.transpose, M3.adj]
  ring

/-- Lagrange's identity along the line, for a point of the plane scaled by `t` -/
theorem l_line (l qval : ℝ) (B : M3 ℝ) (a b c d t h' k' : ℝ) (hp : a * h' + b * k' + c * (l * t) = d * t) :
    V3.dot (M3.mulVec B ⟨-b, a, 0⟩) (M3.mulVec B ⟨h', k', l * t⟩) ^ 2 - t ^ 2 * SolveL.discriminant l qval B a b c d
      = SolveL.divisor l qval B a b c d * (V3.normSq (M3.mulVec B ⟨h', k', l * t⟩) - qval * t ^ 2) := by
  rw [l_discriminant_eq, l_divisor_eq]
  exact lagrange_line B _ _ _ t qval (by ext <;> simp only [V3.cross, V3.smul] <;> [ring; ring; linear_combination -hp])

/-- **rejection**: with a negative discriminant the plane misses the sphere (whatever the divisor and the coefficients) -/
theorem l_no_solution (l qval : ℝ) (B : M3 ℝ) (a b c d h k : ℝ) (hneg : SolveL.discriminant l qval B a b c d < 0)
    (hp : OnPlane a b c d (h, k, l)) : ¬ OnSphere B qval (h, k, l) := fun hq => by
  have key := l_line l qval B a b c d 1 h k (by rw [mul_one, mul_one]; exact hp)
  rw [mul_one, show V3.normSq (M3.mulVec B ⟨h, k, l⟩) = qval from hq] at key
  linarith [sq_nonneg (V3.dot (M3.mulVec B ⟨-b, a, 0⟩) (M3.mulVec B ⟨h, k, l⟩))]


/-! ## `SolveL`, branch `a ≠ 0` (unknown `k` from the quadratic, `h` from the plane) -/

/-- `a²·(|B·(h,k,l)|² − q)` on the plane, as a function of the unknown `k` -/
def lT_quad (l qval : ℝ) (B : M3 ℝ) (a b c d k : ℝ) : ℝ :=
  V3.normSq (M3.mulVec B ⟨d - b * k - c * l, k * a, l * a⟩) - qval * a ^ 2

/-- the polynomial identity behind this branch, for EVERY value of `k` -/
theorem lT_ident (l qval : ℝ) (B : M3 ℝ) (a b c d k : ℝ) :
    (k * (SolveL.divisor l qval B a b c d) + (SolveL.coefT l qval B a b c d)) ^ 2 - a ^ 2 * (SolveL.discriminant l qval B a b c d) = (SolveL.divisor l qval B a b c d) * lT_quad l qval B a b c d k := by
  rw [lT_quad, ← l_line l qval B a b c d a (d - b * k - c * l) (k * a) (by ring)]
  congr 2
  simp only [SolveL.divisor, SolveL.coefT, V3.dot, M3.mulVec, rs_ofNat]; ring

theorem lT_param (l qval : ℝ) (B : M3 ℝ) (a b c d : ℝ) (ht : a ≠ 0) (h k : ℝ) :
    OnBoth a b c d B qval (h, k, l) ↔ h = (d - b * k - c * l) / a ∧ lT_quad l qval B a b c d k = 0 := by
  rw [OnBoth, onPlane_fst ht, onSphere_scaled B qval ht]
  refine and_congr_right fun e => ?_
  rw [e, div_mul_cancel₀ _ ht, lT_quad]

theorem lT_spec (l qval : ℝ) (B : M3 ℝ) (a b c d s : ℝ) (hs : s ^ 2 = SolveL.discriminant l qval B a b c d) (hdv : SolveL.divisor l qval B a b c d ≠ 0) (ht : a ≠ 0) :
    TwoRoots (OnBoth a b c d B qval) (fun h k => (h, k, l)) (SolveL.discriminant l qval B a b c d) (SolveL.solTs s l qval B a b c d).1 (SolveL.solTs s l qval B a b c d).2 :=
  line_spec (lT_ident l qval B a b c d) (lT_param l qval B a b c d ht) (unk := fun v => v.2.1) (fun _ _ => rfl)
    hdv ht hs (by simp only [div_mul_cancel₀ _ hdv]; ring) (by simp only [div_mul_cancel₀ _ hdv]; ring)

/-- **soundness**: both returned triples keep the fixed index, lie on the plane and on the sphere -/
theorem lT_sound (l qval : ℝ) (B : M3 ℝ) (a b c d s : ℝ) (hs : s ^ 2 = (SolveL.discriminant l qval B a b c d)) (hdv : (SolveL.divisor l qval B a b c d) ≠ 0) (ht : a ≠ 0) :
    ((SolveL.solTs s l qval B a b c d).1.2.2 = l ∧ OnPlane a b c d (SolveL.solTs s l qval B a b c d).1 ∧ OnSphere B qval (SolveL.solTs s l qval B a b c d).1) ∧
    ((SolveL.solTs s l qval B a b c d).2.2.2 = l ∧ OnPlane a b c d (SolveL.solTs s l qval B a b c d).2 ∧ OnSphere B qval (SolveL.solTs s l qval B a b c d).2) :=
  ⟨⟨rfl, (lT_spec l qval B a b c d s hs hdv ht).mem₁⟩, ⟨rfl, (lT_spec l qval B a b c d s hs hdv ht).mem₂⟩⟩

/-- **completeness**: every point of the plane–sphere intersection with the fixed index is one of the two returned -/
theorem lT_complete (l qval : ℝ) (B : M3 ℝ) (a b c d s h k : ℝ) (hs : s ^ 2 = (SolveL.discriminant l qval B a b c d)) (hdv : (SolveL.divisor l qval B a b c d) ≠ 0) (ht : a ≠ 0)
    (hp : OnPlane a b c d (h, k, l)) (hq : OnSphere B qval (h, k, l)) :
    (h, k, l) = (SolveL.solTs s l qval B a b c d).1 ∨ (h, k, l) = (SolveL.solTs s l qval B a b c d).2 :=
  (lT_spec l qval B a b c d s hs hdv ht).complete h k ⟨hp, hq⟩

/-- **rejection**: with a negative discriminant the plane misses the sphere -/
theorem lT_no_solution (l qval : ℝ) (B : M3 ℝ) (a b c d h k : ℝ) (hneg : (SolveL.discriminant l qval B a b c d) < 0) (hdv : (SolveL.divisor l qval B a b c d) ≠ 0) (ht : a ≠ 0)
    (hp : OnPlane a b c d (h, k, l)) : ¬ OnSphere B qval (h, k, l) :=
  l_no_solution l qval B a b c d h k hneg hp

/-- **tangency**: the two returned triples coincide exactly when the discriminant vanishes -/
theorem lT_tangent (l qval : ℝ) (B : M3 ℝ) (a b c d s : ℝ) (hs : s ^ 2 = (SolveL.discriminant l qval B a b c d)) (hdv : (SolveL.divisor l qval B a b c d) ≠ 0) (ht : a ≠ 0) :
    (SolveL.solTs s l qval B a b c d).1 = (SolveL.solTs s l qval B a b c d).2 ↔ (SolveL.discriminant l qval B a b c d) = 0 :=
  (lT_spec l qval B a b c d s hs hdv ht).eq_iff


/-! ## `SolveL`, branch `a = 0` (unknown `h` from the quadratic, `k` from the plane) -/

/-- `b²·(|B·(h,k,l)|² − q)` on the plane, as a function of the unknown `h` -/
def lF_quad (l qval : ℝ) (B : M3 ℝ) (b c d h : ℝ) : ℝ :=
  V3.normSq (M3.mulVec B ⟨h * b, d - c * l, l * b⟩) - qval * b ^ 2

/-- the polynomial identity behind this branch, for EVERY value of `h` -/
theorem lF_ident (l qval : ℝ) (B : M3 ℝ) (b c d h : ℝ) :
    (h * (SolveL.divisor l qval B 0 b c d) - (SolveL.coefF l qval B 0 b c d)) ^ 2 - b ^ 2 * (SolveL.discriminant l qval B 0 b c d) = (SolveL.divisor l qval B 0 b c d) * lF_quad l qval B b c d h := by
  rw [lF_quad, ← l_line l qval B 0 b c d b (h * b) (d - c * l) (by ring), ← neg_sq]
  congr 2
  simp only [SolveL.divisor, SolveL.coefF, V3.dot, M3.mulVec, rs_ofNat]; ring

theorem lF_param (l qval : ℝ) (B : M3 ℝ) (b c d : ℝ) (ht : b ≠ 0) (k h : ℝ) :
    OnBoth 0 b c d B qval (h, k, l) ↔ k = (d - 0 * h - c * l) / b ∧ lF_quad l qval B b c d h = 0 := by
  rw [OnBoth, onPlane_snd ht, onSphere_scaled B qval ht]
  refine and_congr_right fun e => ?_
  rw [e, div_mul_cancel₀ _ ht, zero_mul, sub_zero, lF_quad]

theorem lF_spec (l qval : ℝ) (B : M3 ℝ) (b c d s : ℝ) (hs : s ^ 2 = SolveL.discriminant l qval B 0 b c d) (hdv : SolveL.divisor l qval B 0 b c d ≠ 0) (ht : b ≠ 0) :
    TwoRoots (OnBoth 0 b c d B qval) (fun k h => (h, k, l)) (SolveL.discriminant l qval B 0 b c d) (SolveL.solFs s l qval B 0 b c d).1 (SolveL.solFs s l qval B 0 b c d).2 :=
  line_spec (fun h => sub_eq_add_neg (h * _) _ ▸ lF_ident l qval B b c d h) (lF_param l qval B b c d ht) (unk := fun v => v.1) (fun _ _ => rfl)
    hdv ht hs (by simp only [div_mul_cancel₀ _ hdv]; ring) (by simp only [div_mul_cancel₀ _ hdv]; ring)

/-- **soundness**: both returned triples keep the fixed index, lie on the plane and on the sphere -/
theorem lF_sound (l qval : ℝ) (B : M3 ℝ) (b c d s : ℝ) (hs : s ^ 2 = (SolveL.discriminant l qval B 0 b c d)) (hdv : (SolveL.divisor l qval B 0 b c d) ≠ 0) (ht : b ≠ 0) :
    ((SolveL.solFs s l qval B 0 b c d).1.2.2 = l ∧ OnPlane 0 b c d (SolveL.solFs s l qval B 0 b c d).1 ∧ OnSphere B qval (SolveL.solFs s l qval B 0 b c d).1) ∧
    ((SolveL.solFs s l qval B 0 b c d).2.2.2 = l ∧ OnPlane 0 b c d (SolveL.solFs s l qval B 0 b c d).2 ∧ OnSphere B qval (SolveL.solFs s l qval B 0 b c d).2) :=
  ⟨⟨rfl, (lF_spec l qval B b c d s hs hdv ht).mem₁⟩, ⟨rfl, (lF_spec l qval B b c d s hs hdv ht).mem₂⟩⟩

/-- **completeness**: every point of the plane–sphere intersection with the fixed index is one of the two returned -/
theorem lF_complete (l qval : ℝ) (B : M3 ℝ) (b c d s h k : ℝ) (hs : s ^ 2 = (SolveL.discriminant l qval B 0 b c d)) (hdv : (SolveL.divisor l qval B 0 b c d) ≠ 0) (ht : b ≠ 0)
    (hp : OnPlane 0 b c d (h, k, l)) (hq : OnSphere B qval (h, k, l)) :
    (h, k, l) = (SolveL.solFs s l qval B 0 b c d).1 ∨ (h, k, l) = (SolveL.solFs s l qval B 0 b c d).2 :=
  (lF_spec l qval B b c d s hs hdv ht).complete k h ⟨hp, hq⟩

/-- **rejection**: with a negative discriminant the plane misses the sphere -/
theorem lF_no_solution (l qval : ℝ) (B : M3 ℝ) (b c d h k : ℝ) (hneg : (SolveL.discriminant l qval B 0 b c d) < 0) (hdv : (SolveL.divisor l qval B 0 b c d) ≠ 0) (ht : b ≠ 0)
    (hp : OnPlane 0 b c d (h, k, l)) : ¬ OnSphere B qval (h, k, l) :=
  l_no_solution l qval B 0 b c d h k hneg hp

/-- **tangency**: the two returned triples coincide exactly when the discriminant vanishes -/
theorem lF_tangent (l qval : ℝ) (B : M3 ℝ) (b c d s : ℝ) (hs : s ^ 2 = (SolveL.discriminant l qval B 0 b c d)) (hdv : (SolveL.divisor l qval B 0 b c d) ≠ 0) (ht : b ≠ 0) :
    (SolveL.solFs s l qval B 0 b c d).1 = (SolveL.solFs s l qval B 0 b c d).2 ↔ (SolveL.discriminant l qval B 0 b c d) = 0 :=
  (lF_spec l qval B b c d s hs hdv ht).eq_iff


/-! ## `SolveL.solve` -/

/-- **C19 for `solve_l_fixed_q`**: what the function returns, in every case -/
theorem l_solve_spec (l qval : ℝ) (B : M3 ℝ) (a b c d : ℝ) :
    (∀ v1 v2, SolveL.solve l qval B a b c d = .ok [v1, v2] →
        (v1.2.2 = l ∧ OnPlane a b c d v1 ∧ OnSphere B qval v1) ∧ (v2.2.2 = l ∧ OnPlane a b c d v2 ∧ OnSphere B qval v2) ∧
        (∀ h k, OnPlane a b c d (h, k, l) → OnSphere B qval (h, k, l) → (h, k, l) = v1 ∨ (h, k, l) = v2) ∧
        (v1 = v2 ↔ SolveL.discriminant l qval B a b c d = 0)) ∧
    (∀ e, SolveL.solve l qval B a b c d = .error e → e = .dce ∧
        (SolveL.divisor l qval B a b c d = 0 ∨ (SolveL.discriminant l qval B a b c d < 0 ∧ ∀ h k, OnPlane a b c d (h, k, l) → ¬ OnSphere B qval (h, k, l)))) ∧
    (∀ vs, SolveL.solve l qval B a b c d = .ok vs → vs.length = 2) := by
  have htf : a = 0 → SolveL.divisor l qval B a b c d ≠ 0 → b ≠ 0 := by
    rintro rfl hdv rfl; exact hdv (by simp [SolveL.divisor])
  refine solve_shape (t := a) rfl (fun hdv hnn ht => ?_) (fun hdv hnn ht => ?_) (fun _ hneg h k => l_no_solution l qval B a b c d h k hneg)
  · have H := lT_spec l qval B a b c d _ (Real.sq_sqrt hnn) hdv ht
    exact ⟨⟨rfl, H.mem₁⟩, ⟨rfl, H.mem₂⟩, fun h k hp hq => H.complete h k ⟨hp, hq⟩, H.eq_iff⟩
  · have ht' := htf ht hdv; subst ht
    have H := lF_spec l qval B b c d _ (Real.sq_sqrt hnn) hdv ht'
    exact ⟨⟨rfl, H.mem₁⟩, ⟨rfl, H.mem₂⟩, fun h k hp hq => H.complete k h ⟨hp, hq⟩, H.eq_iff⟩

end
end C19
