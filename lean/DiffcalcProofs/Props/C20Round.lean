import DiffcalcProofs.Props.C20
import DiffcalcProofs.Props.C06
/-!
# C20 — the round trip, end to end on the model

`polarFromHkl UB B (s · hklFromPolar UB ref pol az) ref = (pol, az mod 2π, s)`: the inverse transform, composed through
`angle_between_vectors`, `bound`, the plane distances and the azimuth gate, returns the polar angle, the azimuth modulo 360° and the scale.
-/
namespace C20
open M3 Scalar PyOps
noncomputable section

/-- `cos(radians(angle_between_vectors(x, y)))` is the dot product of the unit vectors -/
theorem cosBetween_eq (x y : V3 ℝ) (hx : 0 < V3.norm x) (hy : 0 < V3.norm y) :
    Polar.cosBetween x y = .ok (V3.dot (V3.unit x) (V3.unit y)) := by
  simp only [Polar.cosBetween, angleBetween_eq, bind, Except.bind, pure, Except.pure, rs_cos, scalar_toRad_toDeg, cos_arccos_of_abs_le (V3.abs_dot_unit_le_one x y)]

/-- the offset direction of the forward transform: a unit vector with the three components of `C20.offset_components` -/
def oDir (w k : V3 ℝ) (p a : ℝ) : V3 ℝ := M3.mulVec (rodrigues w a) (M3.mulVec (rodrigues k p) w)

/-- `UB · hklFromPolar UB ref pol az = |w| · oDir ŵ k̂ pol az` with `w = UB·ref`, `k = auxAxis w` -/
theorem forward_closed (UB : M3 ℝ) (hdet : M3.det UB ≠ 0) (ref : V3 ℝ) (pol az : ℝ)
    (hw : 0 < V3.norm (M3.mulVec UB ref)) (hax : 0 < V3.norm (Polar.auxAxis (M3.mulVec UB ref))) :
    M3.mulVec UB (Polar.hklFromPolar UB ref pol az) =
      V3.smul (V3.norm (M3.mulVec UB ref)) (oDir (V3.unit (M3.mulVec UB ref)) (V3.unit (Polar.auxAxis (M3.mulVec UB ref))) pol az) := by
  unfold Polar.hklFromPolar oDir
  simp only [M3.mulVec_mul, M3.mulVec_inv_cancel UB hdet]
  rw [← M3.mulVec_smul, ← M3.mulVec_smul, V3.smul_norm_unit _ hw, rodrigues_unit_axis hw, rodrigues_unit_axis hax]

theorem norm_oDir (w k : V3 ℝ) (p a : ℝ) (hw : V3.norm w = 1) (hk : V3.norm k = 1) : V3.norm (oDir w k p a) = 1 := by
  unfold oDir
  rw [(C08.rodrigues_isRot _ a (V3.norm_pos_of_norm_one hw)).norm, (C08.rodrigues_isRot _ p (V3.norm_pos_of_norm_one hk)).norm, hw]

/-! the auxiliary axis is `w × ŷ` or `w × ẑ`: perpendicular to `w`, and not zero. -/

theorem auxAxis_perp (w : V3 ℝ) : V3.dot (Polar.auxAxis w) w = 0 := by
  unfold Polar.auxAxis; dsimp only; split <;> exact V3.dot_cross_left_self w _

/-- the auxiliary axis never vanishes for a vector of length at least 1e-7 (so `hax` in `polar_roundtrip` is implied by that) -/
theorem auxAxis_pos (w : V3 ℝ) (hw : (1e-7 : ℝ) ≤ V3.norm w) : 0 < V3.norm (Polar.auxAxis w) := by
  unfold Polar.auxAxis
  simp only [rs_lt, rs_SMALL, decide_eq_true_eq]
  split
  · rename_i hlt
    -- `w × ŷ` is shorter than `w`, which it would not be with `w.y = 0`; and `w.y` is the first component of `w × ẑ`
    have h := (Real.sqrt_lt_sqrt_iff (V3.normSq_nonneg _)).mp (lt_of_lt_of_le hlt hw)
    rw [V3.norm_pos_iff]; left
    intro h0
    refine h.ne ?_
    simp only [V3.normSq, V3.dot, V3.cross, V3.ey, V3.ez, rs_zero, rs_one, mul_zero, mul_one, sub_zero, zero_sub] at h0 ⊢
    rw [h0]
    ring
  · rename_i hlt
    exact lt_of_lt_of_le (show (0 : ℝ) < 1e-7 by norm_num) (not_lt.mp hlt)

/-- **the round trip** -/
theorem polar_roundtrip (U B : M3 ℝ) (hU : IsRot U) (hB : M3.det B ≠ 0) (ref : V3 ℝ) (pol az s : ℝ) (hs : 0 < s)
    (hw : 0 < V3.norm (M3.mulVec (M3.mul U B) ref))
    (hax : 0 < V3.norm (Polar.auxAxis (M3.mulVec (M3.mul U B) ref)))
    (hp0 : 0 ≤ pol) (hp1 : pol ≤ Real.pi) (hsin : (2e-7 : ℝ) ≤ Real.sin pol)
    (harea : (1e-7 : ℝ) ≤ s * V3.norm (M3.mulVec (M3.mul U B) ref) ^ 2 * Real.sin pol) :
    ∃ azr, Polar.polarFromHkl (M3.mul U B) B (V3.smul s (Polar.hklFromPolar (M3.mul U B) ref pol az)) ref
        = .ok (Scalar.toDeg pol, some (Scalar.toDeg azr), s) ∧ C03.SameAngle azr az := by
  have hsp : 0 < Real.sin pol := lt_of_lt_of_le (by norm_num) hsin
  have hdet : M3.det (M3.mul U B) ≠ 0 := hU.det_mul_ne_zero hB
  set UB := M3.mul U B with hUB
  set w := M3.mulVec UB ref with hwdef
  set k := Polar.auxAxis w
  set W := V3.norm w with hWdef
  have hw1 : V3.norm (V3.unit w) = 1 := V3.norm_unit w hw
  have hk1 : V3.norm (V3.unit k) = 1 := V3.norm_unit k hax
  have hkw : V3.dot k w = 0 := auxAxis_perp w
  have hperp : V3.dot (V3.unit k) (V3.unit w) = 0 := V3.dot_unit_eq_zero hkw
  set o := oDir (V3.unit w) (V3.unit k) pol az
  have ho1 : V3.norm o = 1 := norm_oDir _ _ _ _ hw1 hk1
  obtain ⟨hc1, hc2, hc3⟩ : V3.dot o (V3.unit w) = Real.cos pol ∧
      V3.dot o (V3.cross (V3.unit k) (V3.unit w)) = Real.sin pol * Real.cos az ∧ V3.dot o (V3.unit k) = Real.sin pol * Real.sin az :=
    offset_components (V3.unit w) (V3.unit k) pol az hw1 hk1 hperp
  -- the offset vector in the laboratory frame is `s W · o`
  have hsW : 0 < s * W := mul_pos hs hw
  have hon : M3.mulVec UB (V3.smul s (Polar.hklFromPolar UB ref pol az)) = V3.smul (s * W) o := by
    rw [M3.mulVec_smul, forward_closed UB hdet ref pol az hw hax, V3.smul_smul]
  have hon_norm : V3.norm (V3.smul (s * W) o) = s * W := by rw [V3.norm_smul_pos _ hsW, ho1, mul_one]
  have hon_unit : V3.unit (V3.smul (s * W) o) = o := by
    rw [V3.unit_smul hsW, V3.unit_of_norm_one ho1]
  -- plane distances: `U` does not change lengths
  have hBref : V3.norm (M3.mulVec B ref) = W := by
    rw [hWdef, hwdef, hUB, M3.mulVec_mul, hU.norm]
  have hBoff : V3.norm (M3.mulVec B (V3.smul s (Polar.hklFromPolar UB ref pol az))) = s * W := by
    rw [← hon_norm, ← hon, hUB, M3.mulVec_mul, hU.norm]
  -- the area vector: `|w × s W o| = s W² |ŵ × o|`, and `|ŵ × o|` is the sine of the angle between the two unit vectors
  have harea_norm : V3.norm (V3.cross w (V3.smul (s * W) o)) = s * W ^ 2 * Real.sin pol := by
    have hwo : V3.norm (V3.cross (V3.unit w) o) = Real.sin pol := by
      rw [← V3.sin_arccos_dot (V3.dot_self_of_norm_one hw1) (V3.dot_self_of_norm_one ho1), V3.dot_comm, hc1, Real.arccos_cos hp0 hp1]
    conv_lhs => rw [← V3.smul_norm_unit w hw]
    rw [V3.cross_smul_left, V3.cross_smul_right, V3.smul_smul, V3.norm_smul_pos _ (mul_pos hw hsW), hwo]
    ring
  -- `k ⟂ w`: `|k × w| = |k| |w|`, so the direction of `k × w` is `k̂ × ŵ`
  have hkxw : 0 < V3.norm (V3.cross k w) ∧ V3.unit (V3.cross k w) = V3.cross (V3.unit k) (V3.unit w) := by
    have e := V3.norm_cross_of_dot_eq_zero hkw
    exact ⟨by rw [e]; exact mul_pos hax hw, by rw [← V3.smul_inv_norm, e, ← V3.cross_unit]⟩
  refine ⟨atan2R (Real.sin pol * Real.sin az) (Real.sin pol * Real.cos az), ?_, azimuth_recovered pol az hsp⟩
  unfold Polar.polarFromHkl
  rw [C06.planeDistance_eq B hB ref (hw.trans_eq hBref.symm),
      C06.planeDistance_eq B hB _ (hsW.trans_eq hBoff.symm), hBref, hBoff, hon]
  simp only [bind, Except.bind]
  rw [← hwdef, show (if Scalar.lt (V3.norm (V3.cross w V3.ey)) Scalar.SMALL = true then V3.cross w V3.ez else V3.cross w V3.ey) = k from rfl,
    if_neg (by rw [harea_norm, rs_lt, rs_SMALL, decide_eq_true_eq]; exact not_lt.mpr harea)]
  -- the two projections and the polar angle
  rw [cosBetween_eq _ k (hsW.trans_eq hon_norm.symm) hax, hon_unit, hc3]
  rw [cosBetween_eq _ _ (hsW.trans_eq hon_norm.symm) hkxw.1, hon_unit, hkxw.2, hc2]
  rw [angleBetween_eq w, hon_unit, V3.dot_comm, hc1, Real.arccos_cos hp0 hp1]
  simp only [pure, Except.pure]
  rw [if_pos (by simp only [rs_lt, rs_abs, Bool.or_eq_true, decide_eq_true_eq]; exact gate_open pol az hsin), rs_atan2]
  rw [div_div_div_cancel_left' _ _ Real.two_pi_pos.ne', mul_div_assoc, div_self hw.ne', mul_one]

/-- non-vacuity: identity UB, reference (1,0,0), polar angle 90°, azimuth 60°, scale 3 — all hypotheses of `polar_roundtrip` hold -/
example : ∃ azr, Polar.polarFromHkl (M3.mul M3.id M3.id) M3.id
      (V3.smul 3 (Polar.hklFromPolar (M3.mul M3.id M3.id) ⟨1, 0, 0⟩ (Real.pi / 2) (Real.pi / 3))) ⟨1, 0, 0⟩
      = .ok (Scalar.toDeg (Real.pi / 2), some (Scalar.toDeg azr), 3) ∧ C03.SameAngle azr (Real.pi / 3) := by
  have hw : (M3.mulVec (M3.mul M3.id M3.id) (⟨1, 0, 0⟩ : V3 ℝ)) = ⟨1, 0, 0⟩ := by
    rw [M3.mul_id, M3.mulVec_id]
  have hn : V3.norm (⟨1, 0, 0⟩ : V3 ℝ) = 1 := V3.norm_of_dot_self_one (by simp [V3.dot])
  have hpi := Real.pi_pos
  apply polar_roundtrip M3.id M3.id M3.isRot_id (by rw [M3.det_id]; exact one_ne_zero) ⟨1, 0, 0⟩ (Real.pi / 2) (Real.pi / 3) 3 (by norm_num)
  · rw [hw, hn]; norm_num
  · apply auxAxis_pos; rw [hw, hn]; norm_num
  · positivity
  · exact half_le_self hpi.le
  · rw [Real.sin_pi_div_two]; norm_num
  · rw [hw, hn, Real.sin_pi_div_two]; norm_num

end
end C20
