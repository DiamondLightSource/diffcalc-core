import DiffcalcProofs.Lemmas.SolveTrig
import DiffcalcProofs.Lemmas.Rotations
import Diffcalc.Model.Polar
/-!
# C20 — polar offset of a reciprocal vector round-trips for every azimuth

Model: `Diffcalc/Model/Polar.lean` (hand, tie H), `xyz_rotation` as the Rodrigues rotation (C08: proper, fixes its axis).
Proved (real reading):
* forward: the offset vector has the same `|UB·hkl|` as the reference (`forward_norm`) and makes the polar angle with it
  (`forward_angle`);
* the decomposition on which the inverse relies (`offset_components`): in the orthonormal frame `(ŵ, p̂, k̂)` of the reference
  direction, the perpendicular axis and the auxiliary axis, the offset direction is
  `(cos p, sin p cos a, sin p sin a)` — for EVERY azimuth `a`;
* hence the azimuth is recovered modulo 2π whenever `sin p > 0` (`azimuth_recovered`): `atan2(sin p sin a, sin p cos a) ≡ a`,
  including `a = 90°, 180°, 270°` where one of the two projections vanishes (the case the `and`-gated code lost).
The composition through `angle_between_vectors` / `bound` / plane distances is `polar_roundtrip` (C20Round.lean).
-/
namespace C20
open M3
noncomputable section

/-- forward, length: the offset vector lies on the sphere of the reference vector -/
theorem forward_norm (UB : M3 ℝ) (hdet : M3.det UB ≠ 0) (hkl : V3 ℝ) (pol az : ℝ)
    (hw : 0 < V3.norm (M3.mulVec UB hkl)) (hax : 0 < V3.norm (Polar.auxAxis (M3.mulVec UB hkl))) :
    V3.norm (M3.mulVec UB (Polar.hklFromPolar UB hkl pol az)) = V3.norm (M3.mulVec UB hkl) := by
  unfold Polar.hklFromPolar
  simp only [M3.mulVec_mul, M3.mulVec_inv_cancel UB hdet]
  rw [(C08.rodrigues_isRot _ az hw).norm, (C08.rodrigues_isRot _ pol hax).norm]

/-- closed form of the offset direction: `R(ŵ, a) R(k̂, p) ŵ = cos p · ŵ + sin p cos a · (k̂ × ŵ) + sin p sin a · k̂` -/
theorem offset_closed (w k : V3 ℝ) (p a : ℝ) (hw : V3.norm w = 1) (hk : V3.norm k = 1) (hperp : V3.dot k w = 0) :
    M3.mulVec (rodrigues w a) (M3.mulVec (rodrigues k p) w) =
      V3.add (V3.add (V3.smul (Real.cos p) w) (V3.smul (Real.sin p * Real.cos a) (V3.cross k w))) (V3.smul (Real.sin p * Real.sin a) k) := by
  have hww := V3.dot_self_of_norm_one hw
  rw [M3.rodrigues_apply_of_norm_one _ _ a hw, cross_rodrigues_perp p hk hww hperp, dot_rodrigues_perp p hk hww hperp,
    rodrigues_apply_perp p hk hperp]
  ext <;> simp only [V3.add, V3.smul] <;> ring

/-- the components of the offset direction in the orthonormal frame `(ŵ, p̂ = k̂ × ŵ, k̂)` — for EVERY azimuth -/
theorem offset_components (w k : V3 ℝ) (p a : ℝ) (hw : V3.norm w = 1) (hk : V3.norm k = 1) (hperp : V3.dot k w = 0) :
    let o := M3.mulVec (rodrigues w a) (M3.mulVec (rodrigues k p) w)
    V3.dot o w = Real.cos p ∧ V3.dot o (V3.cross k w) = Real.sin p * Real.cos a ∧ V3.dot o k = Real.sin p * Real.sin a := by
  have hww := V3.dot_self_of_norm_one hw
  have hkk := V3.dot_self_of_norm_one hk
  simp only [offset_closed w k p a hw hk hperp, V3.dot_add_left, V3.dot_smul_left]
  refine ⟨?_, ?_, ?_⟩
  · rw [hww, V3.dot_cross_right_self, hperp]; ring
  · rw [V3.dot_comm w (V3.cross k w), V3.dot_cross_right_self, V3.lagrange, hkk, hww, hperp, V3.dot_comm k (V3.cross k w),
      V3.dot_cross_left_self]; ring
  · rw [V3.dot_comm w k, hperp, V3.dot_cross_left_self, hkk]; ring

/-- forward, angle: the offset makes the polar angle with the reference (`cos` of the angle between them is `cos p`) -/
theorem forward_angle (w k : V3 ℝ) (p a : ℝ) (hw : V3.norm w = 1) (hk : V3.norm k = 1) (hperp : V3.dot k w = 0) :
    V3.dot (M3.mulVec (rodrigues w a) (M3.mulVec (rodrigues k p) w)) w = Real.cos p :=
  (offset_components w k p a hw hk hperp).1

/-- **the azimuth is recovered for every azimuth** (modulo 2π), as soon as `sin p > 0` — including the azimuths where one of the
    two projections vanishes -/
theorem azimuth_recovered (p a : ℝ) (hp : 0 < Real.sin p) :
    C03.SameAngle (atan2R (Real.sin p * Real.sin a) (Real.sin p * Real.cos a)) a :=
  C03.sameAngle_atan2 _ _ (Real.sin p) a hp rfl rfl

/-- the gate of the (repaired) inverse: the arctangent is taken unless BOTH projections vanish; with `sin p` above the
    threshold at least one of them is above it for every azimuth -/
theorem gate_open (p a : ℝ) (hp : (2e-7 : ℝ) ≤ Real.sin p) :
    (1e-7 : ℝ) < |Real.sin p * Real.cos a| ∨ (1e-7 : ℝ) < |Real.sin p * Real.sin a| := by
  by_contra hcon
  push Not at hcon
  -- otherwise `sin² p = (sin p cos a)² + (sin p sin a)² ≤ 2·10⁻¹⁴ < (2·10⁻⁷)²`
  have h : (2e-7 : ℝ) ^ 2 ≤ (1e-7 : ℝ) ^ 2 + (1e-7 : ℝ) ^ 2 :=
    calc (2e-7 : ℝ) ^ 2 ≤ Real.sin p ^ 2 := pow_le_pow_left₀ (by norm_num) hp 2
      _ = (Real.sin p * Real.cos a) ^ 2 + (Real.sin p * Real.sin a) ^ 2 := by
          rw [mul_pow, mul_pow, ← mul_add, Real.cos_sq_add_sin_sq, mul_one]
      _ ≤ _ := add_le_add (sq_le_sq' (neg_le_of_abs_le hcon.1) (le_of_abs_le hcon.1)) (sq_le_sq' (neg_le_of_abs_le hcon.2) (le_of_abs_le hcon.2))
  norm_num at h

/-- non-vacuity: azimuth 90°, polar 40° -/
example : C03.SameAngle (atan2R (Real.sin (2 * Real.pi / 9) * Real.sin (Real.pi / 2)) (Real.sin (2 * Real.pi / 9) * Real.cos (Real.pi / 2))) (Real.pi / 2) :=
  azimuth_recovered _ _ (Real.sin_pos_of_pos_of_lt_pi (by positivity) (by linarith [Real.pi_pos]))

/-! ## names this property's check refers to; each restates a fact proved elsewhere -/

theorem rodrigues_apply (k x : V3 ℝ) (t : ℝ) (hk : V3.norm k = 1) :
    M3.mulVec (rodrigues k t) x =
      V3.add (V3.add (V3.smul (Real.cos t) x) (V3.smul (Real.sin t) (V3.cross k x))) (V3.smul ((1 - Real.cos t) * V3.dot k x) k) :=
  M3.rodrigues_apply_of_norm_one k x t hk
theorem rodrigues_scale_axis (k : V3 ℝ) (c t : ℝ) (hc : 0 < c) (hk : 0 < V3.norm k) :
    rodrigues (V3.smul c k) t = rodrigues k t := rodrigues_smul_axis hc k t
theorem dot_smul_left (t : ℝ) (a b : V3 ℝ) : V3.dot (V3.smul t a) b = t * V3.dot a b := V3.dot_smul_left t a b
theorem dot_comm (a b : V3 ℝ) : V3.dot a b = V3.dot b a := V3.dot_comm a b
theorem dot_cross_left_self (k w : V3 ℝ) : V3.dot (V3.cross k w) k = 0 := V3.dot_cross_left_self k w
theorem lagrange (k w : V3 ℝ) : V3.dot (V3.cross k w) (V3.cross k w) = V3.dot k k * V3.dot w w - V3.dot k w ^ 2 := V3.lagrange k w
theorem cross_smul_right (w a : V3 ℝ) (t : ℝ) : V3.cross w (V3.smul t a) = V3.smul t (V3.cross w a) := V3.cross_smul_right t w a
theorem dot_self_of_norm_one (w : V3 ℝ) (hw : V3.norm w = 1) : V3.dot w w = 1 := V3.dot_self_of_norm_one hw
end
end C20
