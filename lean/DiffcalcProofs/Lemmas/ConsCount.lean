import Diffcalc.Model.Cons
import Mathlib.Tactic.Linarith
import Mathlib.Data.List.Nodup
/-! Counting lemmas for the constraint state.  `count` and `countCat` are lengths of filters of the duplicate-free list `Name.all`, so what
`upd` does to them is one fact about lists (`filter_length_update`); `clearCat` and the split by category are read off the filters; `C10.inv_iff` states the capacity rules `CState.Inv` through them, one clause
per category. -/
open CState

variable {α : Type}

/-- changing a predicate at one point of a duplicate-free list changes the count by that point only -/
theorem filter_length_update {β : Type} [DecidableEq β] (l : List β) (hn : l.Nodup) (n : β)
    (p p' : β → Bool) (h : ∀ m, m ≠ n → p' m = p m) :
    (l.filter p').length + (if n ∈ l ∧ p n then 1 else 0) = (l.filter p).length + (if n ∈ l ∧ p' n then 1 else 0) := by
  induction l with
  | nil => rfl
  | cons x xs ih =>
    obtain ⟨hx, hxs⟩ := List.nodup_cons.mp hn
    by_cases hxn : x = n
    · subst hxn
      -- `x` does not occur in the tail, so the two filters agree there; the head counts `p' x` on the left and `p x` on the right
      have e : xs.filter p' = xs.filter p := List.filter_congr fun m hm => h m (by rintro rfl; exact hx hm)
      simp only [List.filter_cons, e, List.mem_cons, true_or, true_and]
      cases p x <;> cases p' x <;> rfl
    · have ih := ih hxs
      simp only [List.filter_cons, h x hxn, List.mem_cons, Ne.symm hxn, false_or]
      cases p x
      · exact ih
      · simp only [if_true, List.length_cons]; omega

theorem names_nodup : Name.all.Nodup := by decide
theorem mem_all (n : Name) : n ∈ Name.all := by cases n <;> exact List.mem_of_elem_eq_true rfl

theorem count_split (s : CState α) : s.count = s.countCat .det + s.countCat .ref + s.countCat .samp := by
  unfold count countCat
  induction Name.all with
  | nil => rfl
  | cons x xs ih =>
    -- an inactive name counts nowhere; an active one counts once on the left and in exactly one category on the right
    simp only [List.filter_cons]
    cases s.active x
    · exact ih
    · cases x.cat <;> simp only [Bool.true_and, beq_iff_eq, reduceCtorEq, if_true, if_false, List.length_cons, ih] <;> omega

theorem active_upd_self (s : CState α) (n : Name) (v : Option (Val α)) : (s.upd n v).active n = v.isSome := by
  simp only [active, upd, if_true]

theorem active_upd_of_ne (s : CState α) {m n : Name} (h : m ≠ n) (v : Option (Val α)) : (s.upd n v).active m = s.active m := by
  simp only [active, upd, if_neg h]

theorem count_upd (s : CState α) (n : Name) (v : Option (Val α)) :
    (s.upd n v).count + (if s.active n then 1 else 0) = s.count + (if v.isSome then 1 else 0) := by
  have := filter_length_update Name.all names_nodup n (fun m => s.active m) (fun m => (s.upd n v).active m)
    (fun m hm => active_upd_of_ne s hm v)
  simp only [mem_all, true_and, active_upd_self] at this
  exact this

theorem countCat_upd (s : CState α) (n : Name) (v : Option (Val α)) (c : Cat) :
    (s.upd n v).countCat c + (if s.active n && n.cat == c then 1 else 0)
      = s.countCat c + (if v.isSome && n.cat == c then 1 else 0) := by
  have := filter_length_update Name.all names_nodup n (fun m => s.active m && m.cat == c)
    (fun m => (s.upd n v).active m && m.cat == c) (fun m hm => by rw [active_upd_of_ne s hm v])
  simp only [mem_all, true_and, active_upd_self] at this
  exact this

theorem countCat_clearCat (s : CState α) (c c' : Cat) :
    (clearCat s c).countCat c' = if c' = c then 0 else s.countCat c' := by
  unfold countCat clearCat active
  split_ifs with h
  · subst h
    simp only [List.length_eq_zero_iff, List.filter_eq_nil_iff]
    intro m _
    by_cases hm : m.cat = c' <;> simp [hm]
  · congr 1
    apply List.filter_congr
    intro m _
    by_cases hm : m.cat = c <;> simp [hm, Ne.symm h]

theorem count_clearCat (s : CState α) (c : Cat) : (clearCat s c).count + s.countCat c = s.count := by
  have h := count_split (clearCat s c)
  simp only [countCat_clearCat] at h
  have := count_split s
  -- `h` is the split `this` of `s` with the summand of `c` replaced by `0`; which of the three that is shows once `c` is a constructor
  cases c <;> simp only [reduceCtorEq, if_true, if_false] at h <;> omega

/-- switching constraints off lowers every count -/
theorem countCat_mono {s s' : CState α} (h : ∀ m, s'.active m = true → s.active m = true) (c : Cat) :
    s'.countCat c ≤ s.countCat c :=
  (List.monotone_filter_right _ fun m hm => by
    simp only [Bool.and_eq_true] at hm ⊢; exact ⟨h m hm.1, hm.2⟩).length_le

theorem count_mono {s s' : CState α} (h : ∀ m, s'.active m = true → s.active m = true) : s'.count ≤ s.count :=
  (List.monotone_filter_right _ h).length_le

theorem maxCat_pos (c : Cat) : 0 < maxCat c := by cases c <;> decide

theorem count_init : (CState.init : CState α).count = 0 := by
  simp [count, init, active]
theorem countCat_init (c : Cat) : (CState.init : CState α).countCat c = 0 := by
  simp [countCat, init, active]

/-- the capacity rules, one clause per category (for `samp` the bound is the total) -/
theorem C10.inv_iff (s : CState α) : s.Inv ↔ s.count ≤ 3 ∧ ∀ c, s.countCat c ≤ maxCat c := by
  refine ⟨fun ⟨h1, h2, h3⟩ => ⟨h1, fun c => ?_⟩, fun h => ⟨h.1, h.2 .det, h.2 .ref⟩⟩
  have := count_split s
  cases c <;> simp only [maxCat] <;> omega
