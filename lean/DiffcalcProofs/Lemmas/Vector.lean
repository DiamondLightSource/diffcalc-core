import DiffcalcProofs.Lemmas.RealLinalg
/-!
# Vector algebra on `V3 ℝ`, directions, and what a proper rotation preserves

* identities of `dot` / `cross` / `smul` (all by `ring`) and what they say about the norm (Lagrange, hence Cauchy–Schwarz);
* the direction `V3.unit v` of a vector: over `ℝ` the model's spellings of it (`unit v`, `normalised v`,
  `smul (1 / norm v) v`, `⟨v.x / n, v.y / n, v.z / n⟩`) are the same vector, the null vector included (`x / 0 = 0`),
  so a fact about a direction is a fact about `smul`;
* a matrix seen through its columns (`ofCols`): product, determinant (the triple product), Gram matrix;
* `IsRot r`: `r⁻¹ = rᵀ = adj r`; `r` commutes with `dot`, `norm`, `cross`, `unit`; rows and columns are unit vectors; two
  rotations with a common row and a common column are equal.
-/
noncomputable section
open Scalar

namespace V3

/-! ## dot, cross, smul -/

theorem dot_comm (a b : V3 ℝ) : dot a b = dot b a := by simp only [dot]; ring
theorem dot_add_left (a b c : V3 ℝ) : dot (add a b) c = dot a c + dot b c := by simp only [dot, add]; ring
theorem dot_smul_left (t : ℝ) (a b : V3 ℝ) : dot (smul t a) b = t * dot a b := by simp only [dot, smul]; ring
theorem dot_smul_right (c : ℝ) (u v : V3 ℝ) : dot u (smul c v) = c * dot u v := by simp only [dot, smul]; ring
theorem cross_smul_left (t : ℝ) (a b : V3 ℝ) : cross (smul t a) b = smul t (cross a b) := by
  simp only [cross, smul]; congr 1 <;> ring
theorem cross_smul_right (t : ℝ) (a b : V3 ℝ) : cross a (smul t b) = smul t (cross a b) := by
  simp only [cross, smul]; congr 1 <;> ring
theorem cross_add_right (a b c : V3 ℝ) : cross a (add b c) = add (cross a b) (cross a c) := by
  simp only [cross, add]; congr 1 <;> ring
theorem cross_self (a : V3 ℝ) : cross a a = ⟨0, 0, 0⟩ := by simp only [cross, mul_comm, sub_self]
theorem dot_cross_left_self (a b : V3 ℝ) : dot (cross a b) a = 0 := by simp only [dot, cross]; ring
theorem dot_cross_right_self (a b : V3 ℝ) : dot (cross a b) b = 0 := by simp only [dot, cross]; ring
/-- Lagrange: `|a × b|² = |a|² |b|² − (a·b)²` -/
theorem lagrange (a b : V3 ℝ) : dot (cross a b) (cross a b) = dot a a * dot b b - dot a b ^ 2 := by
  simp only [dot, cross]; ring
/-- `a × (b × a) = (a·a) b − (a·b) a` -/
theorem cross_cross_right (a b : V3 ℝ) : cross a (cross b a) = sub (smul (dot a a) b) (smul (dot a b) a) := by
  simp only [cross, sub, smul, dot]; congr 1 <;> ring
/-- `(a × b) × a` is the same vector -/
theorem cross_cross_left (a b : V3 ℝ) : cross (cross a b) a = sub (smul (dot a a) b) (smul (dot a b) a) := by
  simp only [cross, sub, smul, dot]; congr 1 <;> ring

/-! ## the norm -/

theorem dot_self_of_norm_one {v : V3 ℝ} (h : norm v = 1) : dot v v = 1 := by rw [← norm_mul_self, h, mul_one]

/-- … in coordinates, as the solver theorems state it -/
theorem sq_of_norm_one {v : V3 ℝ} (h : norm v = 1) : v.x ^ 2 + v.y ^ 2 + v.z ^ 2 = 1 := by
  simp only [pow_two]; exact dot_self_of_norm_one h

theorem norm_of_dot_self_one {v : V3 ℝ} (h : dot v v = 1) : norm v = 1 := by
  simp only [norm, normSq, h, rs_sqrt, Real.sqrt_one]

theorem norm_pos_of_norm_one {v : V3 ℝ} (h : norm v = 1) : 0 < norm v := h ▸ one_pos

theorem dot_self_pos {v : V3 ℝ} (h : 0 < norm v) : 0 < dot v v := by rw [← norm_mul_self]; exact mul_pos h h

theorem norm_pos_of_cross (v q : V3 ℝ) (h : 0 < norm (cross v q)) : 0 < norm v ∧ 0 < norm q := by
  -- a null factor makes the cross product null
  simp only [norm_pos_iff_ne] at h ⊢
  constructor <;> rintro rfl <;> exact h (by simp [cross])

/-- Cauchy–Schwarz: by Lagrange's identity the difference of the squares is `|a × b|²` -/
theorem abs_dot_le (a b : V3 ℝ) : |dot a b| ≤ norm a * norm b := by
  apply abs_le_of_sq_le_sq _ (mul_nonneg (norm_nonneg a) (norm_nonneg b))
  rw [mul_pow, pow_two (norm a), pow_two (norm b), norm_mul_self, norm_mul_self, ← sub_nonneg, ← lagrange]
  exact normSq_nonneg (cross a b)

theorem abs_dot_le_one {u v : V3 ℝ} (hu : normSq u ≤ 1) (hv : normSq v ≤ 1) : |dot u v| ≤ 1 :=
  (abs_dot_le u v).trans (mul_le_one₀ (Real.sqrt_le_one.mpr hu) (norm_nonneg v) (Real.sqrt_le_one.mpr hv))

/-- the sine of the angle between two unit vectors is the length of their cross product -/
theorem sin_arccos_dot {a b : V3 ℝ} (ha : dot a a = 1) (hb : dot b b = 1) : Real.sin (Real.arccos (dot a b)) = norm (cross a b) := by
  rw [Real.sin_arccos, ← Real.sqrt_mul_self (norm_nonneg _), norm_mul_self, lagrange, ha, hb, one_mul]

/-- orthogonal vectors: `|a × b| = |a| |b|` -/
theorem norm_cross_of_dot_eq_zero {a b : V3 ℝ} (h : dot a b = 0) : norm (cross a b) = norm a * norm b := by
  have e : normSq (cross a b) = normSq a * normSq b := by
    simp only [normSq, lagrange, h]; ring
  simp only [norm, e, rs_sqrt, Real.sqrt_mul (normSq_nonneg a)]

/-- `a × b ⟂ a`, so the double cross product has the product of the lengths -/
theorem norm_cross_cross_self (a b : V3 ℝ) : norm (cross (cross a b) a) = norm (cross a b) * norm a :=
  norm_cross_of_dot_eq_zero (dot_cross_left_self a b)

/-! ## the direction of a vector -/

/-- over `ℝ` (`x / 0 = 0`) this holds of the null vector too -/
theorem smul_inv_norm (v : V3 ℝ) : smul (1 / norm v) v = unit v := by
  simp only [smul, unit, one_div, inv_mul_eq_div]

/-- `util.normalised` and numpy's `v / norm(v)` agree over `ℝ`, the null vector included -/
theorem normalised_eq_unit (v : V3 ℝ) : normalised v = unit v := by
  unfold normalised
  simp only [rs_beq, rs_zero, rs_one, decide_eq_true_eq]
  split
  · rename_i h
    rw [eq_zero_of_norm_eq_zero h]; simp only [unit, zero_div]
  · exact smul_inv_norm v

theorem unit_smul {c : ℝ} (hc : 0 < c) (v : V3 ℝ) : unit (smul c v) = unit v := by
  ext <;> simp only [unit, norm_smul_pos c hc] <;> exact mul_div_mul_left _ _ hc.ne'

theorem norm_unit (v : V3 ℝ) (hv : 0 < norm v) : norm (unit v) = 1 := by
  rw [← smul_inv_norm, norm_smul_pos _ (one_div_pos.mpr hv), one_div_mul_cancel hv.ne']

theorem smul_norm_unit (v : V3 ℝ) (hv : 0 < norm v) : smul (norm v) (unit v) = v := by
  rw [← smul_inv_norm, smul_smul, mul_one_div_cancel hv.ne', one_smul]

theorem unit_of_norm_one {v : V3 ℝ} (h : norm v = 1) : unit v = v := by
  rw [← smul_inv_norm, h, div_one, one_smul]

theorem unit_unit {v : V3 ℝ} (h : 0 < norm v) : unit (unit v) = unit v := unit_of_norm_one (norm_unit v h)

theorem dot_unit (u v : V3 ℝ) : dot (unit u) (unit v) = dot u v / (norm u * norm v) := by
  rw [← smul_inv_norm, ← smul_inv_norm, dot_smul_left, dot_smul_right, ← mul_assoc, one_div_mul_one_div, one_div_mul_eq_div]

theorem cross_unit (u v : V3 ℝ) : cross (unit u) (unit v) = smul (1 / (norm u * norm v)) (cross u v) := by
  rw [← smul_inv_norm, ← smul_inv_norm, cross_smul_left, cross_smul_right, smul_smul, one_div_mul_one_div]

theorem dot_unit_self {v : V3 ℝ} (h : 0 < norm v) : dot (unit v) (unit v) = 1 := by
  rw [dot_unit, ← norm_mul_self, div_self (mul_pos h h).ne']

theorem dot_unit_eq_zero {u v : V3 ℝ} (h : dot u v = 0) : dot (unit u) (unit v) = 0 := by
  rw [dot_unit, h, zero_div]

theorem abs_dot_unit_le_one (u v : V3 ℝ) : |dot (unit u) (unit v)| ≤ 1 := by
  rw [dot_unit, abs_div, abs_of_nonneg (mul_nonneg (norm_nonneg u) (norm_nonneg v))]
  exact div_le_one_of_le₀ (abs_dot_le u v) (mul_nonneg (norm_nonneg u) (norm_nonneg v))

/-- Cauchy–Schwarz as `get_miscut` and `get_miscut_from_hkl` meet it: the cosine they hand to `bound` is in range, null vectors included -/
theorem abs_dot_div_le_one (u v : V3 ℝ) : |dot u v / (norm u * norm v)| ≤ 1 :=
  dot_unit u v ▸ abs_dot_unit_le_one u v

theorem normSq_unit_le_one (v : V3 ℝ) : normSq (unit v) ≤ 1 :=
  (le_abs_self _).trans (abs_dot_unit_le_one v v)

end V3

namespace M3

/-- going over to the other frame and back keeps the direction -/
theorem unit_mulVec_unit {a b : M3 ℝ} (hab : ∀ w, mulVec a (mulVec b w) = w) (v : V3 ℝ) (hv : 0 < V3.norm v) :
    V3.unit (mulVec a (V3.unit (mulVec b v))) = V3.unit v := by
  rw [← V3.smul_inv_norm (mulVec b v), mulVec_smul, hab]
  exact V3.unit_smul (one_div_pos.mpr (norm_mulVec_pos hab v hv)) v

/-- `(A u) × (A v) = cof A (u × v)` -/
theorem cross_mulVec (a : M3 ℝ) (u v : V3 ℝ) :
    V3.cross (mulVec a u) (mulVec a v) = mulVec (transpose (adj a)) (V3.cross u v) := by
  simp only [V3.cross, mulVec, transpose, adj]; congr 1 <;> ring

/-! ## a matrix as its three columns -/

theorem col_mul (a b : M3 ℝ) (j : Nat) : col (mul a b) j = mulVec a (col b j) := by
  rcases j with _ | _ | j <;> rfl

/-- the entries of a matrix whose first column is known: how the solver branches replace the matrix of the code by a vector -/
theorem col0_entries {M : M3 ℝ} {v : V3 ℝ} (h : col M 0 = v) : M.a00 = v.x ∧ M.a10 = v.y ∧ M.a20 = v.z :=
  ⟨congrArg V3.x h, congrArg V3.y h, congrArg V3.z h⟩

theorem mul_ofCols (r : M3 ℝ) (a b c : V3 ℝ) : mul r (ofCols a b c) = ofCols (mulVec r a) (mulVec r b) (mulVec r c) := rfl

theorem mulVec_ofCols_ex (a b c : V3 ℝ) : mulVec (ofCols a b c) ⟨1, 0, 0⟩ = a := by
  simp only [mulVec, ofCols, mul_one, mul_zero, add_zero]

theorem det_ofCols (a b c : V3 ℝ) : det (ofCols a b c) = V3.dot (V3.cross a b) c := by
  simp only [det, ofCols, V3.dot, V3.cross]; ring

theorem det_ofCols_unit (a b c : V3 ℝ) :
    det (ofCols (V3.unit a) (V3.unit b) (V3.unit c)) = det (ofCols a b c) / (V3.norm a * V3.norm b * V3.norm c) := by
  rw [det_ofCols, V3.cross_unit, ← V3.smul_inv_norm c, V3.dot_smul_left, V3.dot_smul_right, ← mul_assoc, one_div_mul_one_div,
    one_div_mul_eq_div, ← det_ofCols]

theorem transpose_mul_ofCols (a b c : V3 ℝ) :
    mul (transpose (ofCols a b c)) (ofCols a b c) =
      ⟨V3.dot a a, V3.dot a b, V3.dot a c, V3.dot b a, V3.dot b b, V3.dot b c, V3.dot c a, V3.dot c b, V3.dot c c⟩ := rfl

/-! ## proper rotations -/

theorem isRot_of_det_pos {r : M3 ℝ} (h : mul (transpose r) r = id) (hd : 0 < det r) : IsRot r := by
  refine ⟨h, ?_⟩
  have := congrArg det h
  rw [det_mul, det_transpose, det_id] at this
  rcases mul_self_eq_one_iff.mp this with h1 | h1
  · exact h1
  · rw [h1] at hd; exact absurd hd (by norm_num)

theorem isRot_ofCols {a b c : V3 ℝ} (ha : V3.dot a a = 1) (hb : V3.dot b b = 1) (hc : V3.dot c c = 1)
    (hab : V3.dot a b = 0) (hac : V3.dot a c = 0) (hbc : V3.dot b c = 0) (hd : 0 < det (ofCols a b c)) :
    IsRot (ofCols a b c) := by
  apply isRot_of_det_pos _ hd
  rw [transpose_mul_ofCols, V3.dot_comm b a, V3.dot_comm c a, V3.dot_comm c b, ha, hb, hc, hab, hac, hbc]
  simp only [id, rs_one, rs_zero]

/-- two orthonormal vectors and their cross product: a right-handed orthonormal frame -/
theorem isRot_ofCols_cross {a b : V3 ℝ} (ha : V3.dot a a = 1) (hb : V3.dot b b = 1) (hab : V3.dot a b = 0) :
    IsRot (ofCols a b (V3.cross a b)) := by
  have hc : V3.dot (V3.cross a b) (V3.cross a b) = 1 := by rw [V3.lagrange, ha, hb, hab]; norm_num
  exact isRot_ofCols ha hb hc hab (by rw [V3.dot_comm]; exact V3.dot_cross_left_self a b)
    (by rw [V3.dot_comm]; exact V3.dot_cross_right_self a b) (by rw [det_ofCols, hc]; exact one_pos)

/-- the same criterion for a matrix given by its entries: six identities instead of the ten of `RᵀR = 1`, `det R = 1` -/
theorem isRot_of_cross_eq_col {r : M3 ℝ} (h0 : V3.dot (col r 0) (col r 0) = 1) (h1 : V3.dot (col r 1) (col r 1) = 1)
    (h01 : V3.dot (col r 0) (col r 1) = 0) (h2 : V3.cross (col r 0) (col r 1) = col r 2) : IsRot r := by
  have h := isRot_ofCols_cross h0 h1 h01
  rwa [h2] at h

namespace IsRot
variable {r : M3 ℝ}

theorem det_ne_zero (h : IsRot r) : det r ≠ 0 := by rw [h.2]; exact one_ne_zero

theorem det_mul_ne_zero (h : IsRot r) {b : M3 ℝ} (hb : det b ≠ 0) : det (M3.mul r b) ≠ 0 := by rwa [det_mul, h.2, one_mul]

theorem mul_transpose (h : IsRot r) : M3.mul r (transpose r) = id := mul_eq_id_comm h.1

/-- `numpy.linalg.inv` (adjugate / determinant) of a proper rotation is its transpose -/
theorem inv_eq (h : IsRot r) : inv r = transpose r := (inv_unique _ _ h.det_ne_zero h.mul_transpose).symm

theorem adj_eq (h : IsRot r) : adj r = transpose r := by
  rw [← h.inv_eq, inv, h.2, rs_one, div_one, one_smul]

protected theorem transpose (h : IsRot r) : IsRot (transpose r) :=
  ⟨h.mul_transpose, by rw [det_transpose, h.2]⟩

theorem dot (h : IsRot r) (u v : V3 ℝ) : V3.dot (mulVec r u) (mulVec r v) = V3.dot u v := by
  rw [dot_mulVec_mulVec, h.1, mulVec_id]

theorem norm (h : IsRot r) (v : V3 ℝ) : V3.norm (mulVec r v) = V3.norm v := by
  simp only [V3.norm, V3.normSq, h.dot]

theorem cross (h : IsRot r) (u v : V3 ℝ) : V3.cross (mulVec r u) (mulVec r v) = mulVec r (V3.cross u v) := by
  rw [cross_mulVec, h.adj_eq, transpose_transpose]

theorem unit (h : IsRot r) (v : V3 ℝ) : V3.unit (mulVec r v) = mulVec r (V3.unit v) := by
  rw [← V3.smul_inv_norm, h.norm, ← mulVec_smul, V3.smul_inv_norm]

theorem mulVec_eq_iff (h : IsRot r) {v w : V3 ℝ} : mulVec r v = w ↔ v = mulVec (transpose r) w :=
  ⟨fun e => by rw [← e, ← mulVec_mul, h.1, mulVec_id], fun e => by rw [e, ← mulVec_mul, h.mul_transpose, mulVec_id]⟩

theorem mul_eq_iff (h : IsRot r) {x b : M3 ℝ} : M3.mul r x = b ↔ x = M3.mul (transpose r) b :=
  ⟨fun e => by rw [← e, ← mul_assoc', h.1, id_mul], fun e => by rw [e, ← mul_assoc', h.mul_transpose, id_mul]⟩

theorem mul_eq_iff' (h : IsRot r) {x b : M3 ℝ} : M3.mul x r = b ↔ x = M3.mul b (transpose r) :=
  ⟨fun e => by rw [← e, mul_assoc', h.mul_transpose, mul_id], fun e => by rw [e, mul_assoc', h.1, mul_id]⟩

/-! length preserved, in the coordinate form that the unit-vector hypotheses of the solver theorems have -/

theorem sq_mulVec (h : IsRot r) (v : V3 ℝ) :
    (mulVec r v).x ^ 2 + (mulVec r v).y ^ 2 + (mulVec r v).z ^ 2 = v.x ^ 2 + v.y ^ 2 + v.z ^ 2 := by
  simp only [pow_two]; exact h.dot v v

theorem col_sq (h : IsRot r) :
    r.a00 ^ 2 + r.a10 ^ 2 + r.a20 ^ 2 = 1 ∧ r.a01 ^ 2 + r.a11 ^ 2 + r.a21 ^ 2 = 1 ∧ r.a02 ^ 2 + r.a12 ^ 2 + r.a22 ^ 2 = 1 := by
  -- the diagonal of `rᵀ r = 1`
  simp only [pow_two]
  exact ⟨(congrArg a00 h.1).trans rs_one, (congrArg a11 h.1).trans rs_one, (congrArg a22 h.1).trans rs_one⟩

theorem row_sq (h : IsRot r) :
    r.a00 ^ 2 + r.a01 ^ 2 + r.a02 ^ 2 = 1 ∧ r.a10 ^ 2 + r.a11 ^ 2 + r.a12 ^ 2 = 1 ∧ r.a20 ^ 2 + r.a21 ^ 2 + r.a22 ^ 2 = 1 :=
  h.transpose.col_sq

end IsRot

/-- a rotation that fixes two independent vectors is the identity: it also fixes their cross product, hence a basis -/
theorem IsRot.eq_id_of_fix {R : M3 ℝ} (hR : IsRot R) {p w : V3 ℝ} (hp : mulVec R p = p) (hw : mulVec R w = w)
    (hind : V3.dot (V3.cross p w) (V3.cross p w) ≠ 0) : R = id := by
  have hT : M3.mul R (ofCols p w (V3.cross p w)) = ofCols p w (V3.cross p w) := by
    rw [mul_ofCols, ← hR.cross, hp, hw]
  have hdet : det (ofCols p w (V3.cross p w)) ≠ 0 := by rwa [det_ofCols]
  rw [← mul_id R, ← mul_inv_cancel (ofCols p w (V3.cross p w)) hdet, ← mul_assoc', hT]

/-- two rotations with a common row (`Aᵀp = Bᵀp`) and a common column (`Ac = Bc`), the two being independent, are equal -/
theorem rot_eq_of_row_col {A B : M3 ℝ} (hA : IsRot A) (hB : IsRot B) {p c : V3 ℝ}
    (hrow : mulVec (transpose A) p = mulVec (transpose B) p) (hcol : mulVec A c = mulVec B c)
    (hind : V3.dot (V3.cross p (mulVec A c)) (V3.cross p (mulVec A c)) ≠ 0) : A = B := by
  have h := (hA.mul hB.transpose).eq_id_of_fix (p := p) (w := mulVec A c)
    (by rw [mulVec_mul, ← hrow, ← mulVec_mul, hA.mul_transpose, mulVec_id])
    (by rw [mulVec_mul]; nth_rewrite 1 [hcol]; rw [← mulVec_mul (transpose B), hB.1, mulVec_id]) hind
  rwa [hB.transpose.mul_eq_iff', transpose_transpose, id_mul] at h

/-- two proper rotations with a common row (along the unit vector `p`) and a common column (along the unit vector `c`) are equal unless
    the entry where the two cross is ±1: `|p × A c|² = 1 − (p · A c)²` -/
theorem rot_eq_of_unit_row_col {A B : M3 ℝ} (hA : IsRot A) (hB : IsRot B) {p c : V3 ℝ} (hp : V3.dot p p = 1) (hc : V3.dot c c = 1)
    (hrow : mulVec (transpose A) p = mulVec (transpose B) p) (hcol : mulVec A c = mulVec B c)
    (hne : V3.dot p (mulVec A c) ^ 2 ≠ 1) : A = B :=
  rot_eq_of_row_col hA hB hrow hcol (by rw [V3.lagrange, hA.dot, hp, hc]; exact fun h => hne (by linear_combination -h))

end M3

/-- Parseval in the frame `(a, b, a × b)` of two orthonormal vectors -/
theorem V3.parseval {a b : V3 ℝ} (ha : V3.dot a a = 1) (hb : V3.dot b b = 1) (hab : V3.dot a b = 0) (v : V3 ℝ) :
    V3.dot v a ^ 2 + V3.dot v b ^ 2 + V3.dot v (V3.cross a b) ^ 2 = V3.dot v v := by
  -- the components of `v` in the frame are the entries of `Rᵀ v`, `R` the rotation with the frame as its columns
  rw [V3.dot_comm v a, V3.dot_comm v b, V3.dot_comm v (V3.cross a b), pow_two, pow_two, pow_two]
  exact (M3.isRot_ofCols_cross ha hb hab).transpose.dot v v
end
