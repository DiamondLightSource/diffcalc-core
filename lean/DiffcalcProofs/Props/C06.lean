import Diffcalc.Gen.Crystal
import Diffcalc.Model.Crystal
import DiffcalcProofs.Lemmas.PyCalc
import DiffcalcProofs.Lemmas.Small
/-!
# C06 — the B matrix is the Busing–Levy factor of the reciprocal metric

Model: `Gen.reciprocalB`, `Gen.cellForSystem`, GENERATED from `src/diffcalc/ub/crystal.py` on every run (tie T).
Specification: the direct metric tensor `G` of `(a₁,a₂,a₃,α₁,α₂,α₃)`; `B` upper triangular with positive diagonal and
`Bᵀ B · G = 4π² · 1` (i.e. `BᵀB = 4π² G⁻¹`, stated without an inverse).
Idea (Busing–Levy): `B` is `2π` times the inverse transpose of the direct basis `Cell.D`, whose Gram matrix is `G`; the cell lengths
enter `B` only as the column factors `1 / aᵢ`.
-/
namespace C06
open M3
noncomputable section

/-- a quotient whose numerator and denominator both pick up the factor `u`, the denominator `t` besides -/
theorem quot_scale {n n' v v' u t : ℝ} (hu : u ≠ 0) (hn : n' = u * n) (hv : v' = u * (t * v)) : n' / v' = n / v * (1 / t) := by
  rw [hn, hv, mul_div_mul_left _ _ hu, mul_one_div, div_div, mul_comm]

/-- column `i` of the B matrix is proportional to `1 / aᵢ`: multiplying the cell lengths by non-zero factors divides the columns,
    whatever the angles -/
theorem reciprocalB_scale_axes (a1 a2 a3 al1 al2 al3 t1 t2 t3 : ℝ) (h1 : t1 ≠ 0) (h2 : t2 ≠ 0) (h3 : t3 ≠ 0) :
    Gen.reciprocalB (t1 * a1) (t2 * a2) (t3 * a3) al1 al2 al3
      = M3.mul (Gen.reciprocalB a1 a2 a3 al1 al2 al3) ⟨1 / t1, 0, 0, 0, 1 / t2, 0, 0, 0, 1 / t3⟩ := by
  rw [M3.mul_diag]
  simp only [Gen.reciprocalB, rs_sqrt, rs_acos, rs_ofNat, rs_pi, Nat.cast_zero, zero_mul]
  -- the angular factors are the same on both sides
  generalize Real.sqrt _ = r
  generalize Scalar.cos (Real.arccos _) = cb3
  generalize Scalar.cos (Real.arccos _) = cb2
  generalize Scalar.sin (Real.arccos _) = sb3
  generalize Scalar.sin (Real.arccos _) = sb2
  generalize ((2 : ℕ) : ℝ) * Real.pi = p
  -- in `bᵢ = 2π aⱼ aₖ sin αᵢ / V` the factors of the two other axes cancel
  have e1 : p * (t2 * a2) * (t3 * a3) * Scalar.sin al1 / (t1 * a1 * (t2 * a2) * (t3 * a3) * r)
      = p * a2 * a3 * Scalar.sin al1 / (a1 * a2 * a3 * r) * (1 / t1) := quot_scale (mul_ne_zero h2 h3) (by ring) (by ring)
  have e2 : p * (t1 * a1) * (t3 * a3) * Scalar.sin al2 / (t1 * a1 * (t2 * a2) * (t3 * a3) * r)
      = p * a1 * a3 * Scalar.sin al2 / (a1 * a2 * a3 * r) * (1 / t2) := quot_scale (mul_ne_zero h1 h3) (by ring) (by ring)
  have e3 : p * (t1 * a1) * (t2 * a2) * Scalar.sin al3 / (t1 * a1 * (t2 * a2) * (t3 * a3) * r)
      = p * a1 * a2 * Scalar.sin al3 / (a1 * a2 * a3 * r) * (1 / t3) := quot_scale (mul_ne_zero h1 h2) (by ring) (by ring)
  have e4 : p / (t3 * a3) = p / a3 * (1 / t3) := quot_scale one_ne_zero (one_mul p).symm (one_mul _).symm
  rw [e1, e2, e3, e4]
  congr 1 <;> ring

/-- an admissible cell: positive lengths, angles strictly between 0 and π, positive volume -/
structure Cell where
  a1 : ℝ
  a2 : ℝ
  a3 : ℝ
  al1 : ℝ
  al2 : ℝ
  al3 : ℝ
  ha1 : 0 < a1
  ha2 : 0 < a2
  ha3 : 0 < a3
  h1 : 0 < al1 ∧ al1 < Real.pi
  h2 : 0 < al2 ∧ al2 < Real.pi
  h3 : 0 < al3 ∧ al3 < Real.pi
  hW : 0 < 1 + 2 * Real.cos al1 * Real.cos al2 * Real.cos al3 - Real.cos al1 ^ 2 - Real.cos al2 ^ 2 - Real.cos al3 ^ 2

/-- a reciprocal angle: the code's `acos` argument `n / p` lies in `[-1, 1]` because `1 - (n / p)² = w / p²` with `w = p² - n² > 0`
    (for β₂, β₃: `p` the product of two sines, `n = c c' - c''` with `c''` the cosine of the third angle, `w = W`) -/
theorem recipAngle {n p w : ℝ} (hp : 0 < p) (hw : 0 < w) (h : p ^ 2 - n ^ 2 = w) :
    1 - (n / p) ^ 2 = w / p ^ 2 ∧ Real.cos (Real.arccos (n / p)) = n / p ∧ Real.sin (Real.arccos (n / p)) = Real.sqrt w / p := by
  have h1 : 1 - (n / p) ^ 2 = w / p ^ 2 := by rw [div_pow, ← h, sub_div, div_self (pow_ne_zero 2 hp.ne')]
  have hx : |n / p| ≤ 1 := (sq_le_one_iff_abs_le_one _).mp (sub_nonneg.mp ((div_pos hw (pow_pos hp 2)).le.trans_eq h1.symm))
  refine ⟨h1, cos_arccos_of_abs_le hx, ?_⟩
  rw [Real.sin_arccos, h1, Real.sqrt_div hw.le, Real.sqrt_sq hp.le]

namespace Cell
variable (k : Cell)
def c1 := Real.cos k.al1
def c2 := Real.cos k.al2
def c3 := Real.cos k.al3
def s1 := Real.sin k.al1
def s2 := Real.sin k.al2
def s3 := Real.sin k.al3
def W := 1 + 2 * k.c1 * k.c2 * k.c3 - k.c1 ^ 2 - k.c2 ^ 2 - k.c3 ^ 2
/-- the direct metric tensor -/
def G : M3 ℝ :=
  ⟨k.a1 * k.a1, k.a1 * k.a2 * k.c3, k.a1 * k.a3 * k.c2,
   k.a1 * k.a2 * k.c3, k.a2 * k.a2, k.a2 * k.a3 * k.c1,
   k.a1 * k.a3 * k.c2, k.a2 * k.a3 * k.c1, k.a3 * k.a3⟩
def B : M3 ℝ := Gen.reciprocalB k.a1 k.a2 k.a3 k.al1 k.al2 k.al3

theorem hs1 : 0 < k.s1 := Real.sin_pos_of_pos_of_lt_pi k.h1.1 k.h1.2
theorem hs2 : 0 < k.s2 := Real.sin_pos_of_pos_of_lt_pi k.h2.1 k.h2.2
theorem hs3 : 0 < k.s3 := Real.sin_pos_of_pos_of_lt_pi k.h3.1 k.h3.2
theorem e1 : k.s1 ^ 2 = 1 - k.c1 ^ 2 := eq_sub_of_add_eq (Real.sin_sq_add_cos_sq k.al1)
theorem e2 : k.s2 ^ 2 = 1 - k.c2 ^ 2 := eq_sub_of_add_eq (Real.sin_sq_add_cos_sq k.al2)
theorem e3 : k.s3 ^ 2 = 1 - k.c3 ^ 2 := eq_sub_of_add_eq (Real.sin_sq_add_cos_sq k.al3)
theorem hWpos : 0 < k.W := k.hW
theorem hr : 0 < Real.sqrt k.W := Real.sqrt_pos.mpr k.hWpos

/-- cosines of the reciprocal angles β₂, β₃ as the code computes them -/
def x2 := (k.c1 * k.c3 - k.c2) / (k.s1 * k.s3)
def x3 := (k.c1 * k.c2 - k.c3) / (k.s1 * k.s2)

theorem beta2 : 1 - k.x2 ^ 2 = k.W / (k.s1 ^ 2 * k.s3 ^ 2) ∧ Real.cos (Real.arccos k.x2) = k.x2 ∧
    Real.sin (Real.arccos k.x2) = Real.sqrt k.W / (k.s1 * k.s3) := by
  rw [← mul_pow]
  exact recipAngle (mul_pos k.hs1 k.hs3) k.hWpos (by rw [mul_pow, k.e1, k.e3, W]; ring)
theorem beta3 : 1 - k.x3 ^ 2 = k.W / (k.s1 ^ 2 * k.s2 ^ 2) ∧ Real.cos (Real.arccos k.x3) = k.x3 ∧
    Real.sin (Real.arccos k.x3) = Real.sqrt k.W / (k.s1 * k.s2) := by
  rw [← mul_pow]
  exact recipAngle (mul_pos k.hs1 k.hs2) k.hWpos (by rw [mul_pow, k.e1, k.e2, W]; ring)

/-- closed form of the generated B matrix -/
theorem B_closed : k.B =
    ⟨2 * Real.pi * k.s1 / (k.a1 * Real.sqrt k.W), 2 * Real.pi * k.s2 / (k.a2 * Real.sqrt k.W) * k.x3, 2 * Real.pi * k.s3 / (k.a3 * Real.sqrt k.W) * k.x2,
     0, 2 * Real.pi * k.s2 / (k.a2 * Real.sqrt k.W) * (Real.sqrt k.W / (k.s1 * k.s2)), -(2 * Real.pi * k.s3 / (k.a3 * Real.sqrt k.W)) * (Real.sqrt k.W / (k.s1 * k.s3)) * k.c1,
     0, 0, 2 * Real.pi / k.a3⟩ := by
  -- the lengths enter only as column factors: scale up from the cell with unit lengths, where `bᵢ = 2π sin αᵢ / √W` needs no cancelling
  have hsc := reciprocalB_scale_axes 1 1 1 k.al1 k.al2 k.al3 k.a1 k.a2 k.a3 k.ha1.ne' k.ha2.ne' k.ha3.ne'
  have h2 := k.beta2; have h3 := k.beta3
  simp only [mul_one] at hsc
  rw [B, hsc, M3.mul_diag]
  -- the source writes the squares in W as products
  simp only [Gen.reciprocalB, rs_ofNat, rs_cos, rs_sin, rs_acos, rs_sqrt, rs_pi, Nat.cast_ofNat, Nat.cast_one, Nat.cast_zero, ← sq, mul_one]
  simp only [x2, x3, W, c1, c2, c3, s1, s2, s3] at h2 h3 ⊢
  rw [h2.2.1, h2.2.2, h3.2.1, h3.2.2]
  congr 1 <;> ring

/-- **C06, shape**: B is upper triangular with a positive diagonal -/
theorem B_upper_pos : k.B.a10 = 0 ∧ k.B.a20 = 0 ∧ k.B.a21 = 0 ∧ 0 < k.B.a00 ∧ 0 < k.B.a11 ∧ 0 < k.B.a22 := by
  have := k.hr; have := k.hs1; have := k.hs2; have := k.hs3; have := k.ha1; have := k.ha2; have := k.ha3
  rw [k.B_closed]
  refine ⟨rfl, rfl, rfl, ?_, ?_, ?_⟩ <;> positivity

/-- the direct lattice in the Cartesian frame of `B` (`b₁ ∥ x`, `b₂` in the xy plane): row `i` is the basis vector `aᵢ` -/
def D : M3 ℝ :=
  ⟨k.a1 * Real.sqrt k.W / k.s1, k.a1 * (k.c3 - k.c1 * k.c2) / k.s1, k.a1 * k.c2,
   0, k.a2 * k.s1, k.a2 * k.c1,
   0, 0, k.a3⟩

/-- the rows of `D` have the lengths `aᵢ` and enclose the angles `αᵢ` -/
theorem G_eq : k.G = M3.mul k.D (M3.transpose k.D) := by
  have h1 := k.hs1.ne'; have e1 := k.e1
  have hr2 : Real.sqrt k.W ^ 2 = 1 + 2 * k.c1 * k.c2 * k.c3 - k.c1 ^ 2 - k.c2 ^ 2 - k.c3 ^ 2 := Real.sq_sqrt k.hWpos.le
  -- entrywise, row by row; only the first row of `D` divides (by `s₁`), and only the squared lengths of `a₁` and `a₂` need
  -- `√W² = W` and `s₁² = 1 - c₁²`
  ext <;> simp only [G, D, M3.mul, M3.transpose]
  · field_simp; linear_combination (k.a1 ^ 2 * (1 - k.c2 ^ 2)) * e1 - k.a1 ^ 2 * hr2
  · field_simp; ring1
  · ring1
  · field_simp; ring1
  · linear_combination (-k.a2 ^ 2) * e1
  · ring1
  · ring1
  · ring1
  · ring1

/-- the columns of `B` are the reciprocal basis of the rows of `D` (`aᵢ · bⱼ = 2π δᵢⱼ` is `D_mul_B`) -/
theorem B_mul_D : M3.mul k.B k.D = M3.smul (2 * Real.pi) M3.id := by
  have hr := k.hr.ne'; have h1 := k.hs1.ne'; have h2 := k.hs2.ne'; have h3 := k.hs3.ne'
  have ha1 := k.ha1.ne'; have ha2 := k.ha2.ne'; have ha3 := k.ha3.ne'
  have e1 := k.e1
  rw [k.B_closed]
  -- entrywise, row by row; below the diagonal every product has a factor `0`, and only `b₁ · a₃ = 0` needs `s₁² = 1 - c₁²`
  ext <;> simp only [D, x2, x3, M3.mul, M3.smul, M3.id, rs_one, rs_zero]
  · field_simp; ring1
  · field_simp; ring1
  · field_simp; linear_combination k.c2 * e1
  · ring1
  · field_simp; ring1
  · field_simp; ring1
  · ring1
  · ring1
  · field_simp; ring1

theorem D_mul_B : M3.mul k.D k.B = M3.smul (2 * Real.pi) M3.id := M3.mul_eq_smul_id_comm (by positivity) k.B_mul_D

/-- Busing–Levy: `D / 2π` is a right inverse of `B`, so `B` is invertible and `B⁻¹ = D / 2π` -/
theorem B_mul_D_div : M3.mul k.B (M3.smul (1 / (2 * Real.pi)) k.D) = M3.id := by
  rw [M3.mul_smul, k.B_mul_D, M3.smul_smul, one_div_mul_cancel (by positivity), M3.one_smul]

theorem det_B_ne : M3.det k.B ≠ 0 := M3.det_ne_of_mul_eq_id k.B_mul_D_div

theorem inv_B : M3.inv k.B = M3.smul (1 / (2 * Real.pi)) k.D := (M3.inv_unique _ _ k.det_B_ne k.B_mul_D_div).symm

/-- **C06, metric**: `Bᵀ B · G = 4π² · 1`, i.e. `BᵀB` is `4π²` times the inverse of the direct metric tensor;
    `G = D Dᵀ` and `B D = 2π = D B`, so `BᵀB·G = Bᵀ(B D)Dᵀ = 2π (D B)ᵀ = 4π²` -/
theorem BtB_G : M3.mul (M3.mul (M3.transpose k.B) k.B) k.G = M3.smul (4 * Real.pi ^ 2) M3.id := by
  rw [k.G_eq, M3.mul_assoc', ← M3.mul_assoc' k.B, k.B_mul_D, M3.smul_mul, M3.id_mul, M3.mul_smul, ← M3.transpose_mul, k.D_mul_B,
    M3.transpose_smul, M3.transpose_id, M3.smul_smul]
  congr 1; ring
end Cell

/-! ## plane spacing, Bragg angle -/

/-- the quadratic form `get_hkl_plane_distance` evaluates: with `b = B / c` the code inverts `b⁻¹ b⁻ᵀ`, which is `bᵀ b`, and `hklᵀ bᵀ b hkl = |b hkl|²` -/
theorem planeQuad (B : M3 ℝ) (hdet : M3.det B ≠ 0) (c : ℝ) (hc : 0 < c) (hkl : V3 ℝ) :
    V3.dot hkl (M3.mulVec (M3.inv (M3.mul (M3.inv (M3.sdiv B c)) (M3.inv (M3.transpose (M3.sdiv B c))))) hkl)
      = (V3.norm (M3.mulVec B hkl) / c) ^ 2 := by
  have hc' : 0 < 1 / c := by positivity
  have hdb : M3.det (M3.sdiv B c) ≠ 0 := by rw [M3.sdiv_eq_smul, M3.det_smul]; exact mul_ne_zero (pow_ne_zero 3 hc'.ne') hdet
  have hdbt : M3.det (M3.transpose (M3.sdiv B c)) ≠ 0 := by rwa [M3.det_transpose]
  rw [M3.inv_mul _ _ (M3.det_inv_ne _ hdb) (M3.det_inv_ne _ hdbt), M3.inv_inv _ hdbt, M3.inv_inv _ hdb, M3.dot_mulVec_transpose_mul,
    M3.sdiv_eq_smul, M3.smul_mulVec, ← V3.norm_sq, V3.norm_smul_pos _ hc']
  ring

/-- **C06, plane spacing**: `d(hkl) = 2π / |B·hkl|` -/
theorem planeDistance_eq (B : M3 ℝ) (hdet : M3.det B ≠ 0) (hkl : V3 ℝ) (hne : 0 < V3.norm (M3.mulVec B hkl)) :
    CrystalModel.planeDistance B hkl = .ok (2 * Real.pi / V3.norm (M3.mulVec B hkl)) := by
  have hpos : 0 < V3.norm (M3.mulVec B hkl) / (2 * Real.pi) := by positivity
  unfold CrystalModel.planeDistance
  simp only [rs_two, rs_pi, rs_one, planeQuad B hdet _ (by positivity : (0:ℝ) < 2 * Real.pi), pySqrt_eq (sq_nonneg _),
    Real.sqrt_sq hpos.le, pyDiv_eq _ hpos.ne', one_div_div, bind, Except.bind]

/-- the zero reciprocal vector has no plane spacing: Python raises ZeroDivisionError (turned into DiffcalcException by `get_ttheta_from_hkl`) -/
theorem planeDistance_zero (B : M3 ℝ) : CrystalModel.planeDistance B ⟨0, 0, 0⟩ = .error .zeroDiv := by
  simp [CrystalModel.planeDistance, V3.dot, PyOps.pySqrt, PyOps.pyDiv, bind, Except.bind]

/-! ## crystal systems -/

/-- **C06, systems**: the cell implied by each system name is the crystallographic one -/
theorem cellForSystem_spec (a b c al be ga : ℝ) :
    Gen.cellForSystem "Cubic" a b c al be ga = some (a, a, a, Real.pi / 2, Real.pi / 2, Real.pi / 2) ∧
    Gen.cellForSystem "Tetragonal" a b c al be ga = some (a, a, c, Real.pi / 2, Real.pi / 2, Real.pi / 2) ∧
    Gen.cellForSystem "Hexagonal" a b c al be ga = some (a, a, c, Real.pi / 2, Real.pi / 2, 2 * Real.pi / 3) ∧
    Gen.cellForSystem "Orthorhombic" a b c al be ga = some (a, b, c, Real.pi / 2, Real.pi / 2, Real.pi / 2) ∧
    Gen.cellForSystem "Rhombohedral" a b c al be ga = some (a, a, a, Scalar.toRad al, Scalar.toRad al, Scalar.toRad al) ∧
    Gen.cellForSystem "Monoclinic" a b c al be ga = some (a, b, c, Real.pi / 2, Scalar.toRad be, Real.pi / 2) ∧
    Gen.cellForSystem "Triclinic" a b c al be ga = some (a, b, c, Scalar.toRad al, Scalar.toRad be, Scalar.toRad ga) ∧
    Gen.cellForSystem "Nonsense" a b c al be ga = none := by
  simp [Gen.cellForSystem]

/-- six numbers fill all six fields whatever the system name (the `"*6"` row of `_set_cell_for_system`) -/
theorem cellOfSystem_six {α : Type} [Scalar α] (sys : String) (x1 x2 x3 x4 x5 x6 : α) :
    CrystalModel.cellOfSystem sys [x1, x2, x3, x4, x5, x6] = Gen.cellForSystem sys x1 x2 x3 x4 x5 x6 := by
  simp [CrystalModel.cellOfSystem, CrystalModel.fieldsFor, Gen.systemFields, CrystalModel.fill, CrystalModel.Fields.set]

theorem cellForSystem_names {α : Type} [Scalar α] {sys : String} {a1 a2 a3 d1 d2 d3 : α} {c : α × α × α × α × α × α}
    (h : Gen.cellForSystem sys a1 a2 a3 d1 d2 d3 = some c) :
    sys = "Triclinic" ∨ sys = "Monoclinic" ∨ sys = "Orthorhombic" ∨ sys = "Tetragonal" ∨ sys = "Rhombohedral" ∨ sys = "Hexagonal"
      ∨ sys = "Cubic" := by
  by_contra hn
  simp only [not_or] at hn
  simp [Gen.cellForSystem, hn] at h

/-- a cell of a system, its lengths multiplied by factors that agree on the axes the system ties, and handed back with the angles in
    degrees, is the scaled cell; with all factors 1: `_get_cell_for_system` is idempotent -/
theorem cellForSystem_scale {sys : String} {f1 f2 f3 f4 f5 f6 c1 c2 c3 l1 l2 l3 : ℝ} (t1 t2 t3 : ℝ)
    (h : Gen.cellForSystem sys f1 f2 f3 f4 f5 f6 = some (c1, c2, c3, l1, l2, l3))
    (h12 : sys = "Cubic" ∨ sys = "Rhombohedral" ∨ sys = "Tetragonal" ∨ sys = "Hexagonal" → t2 = t1)
    (h13 : sys = "Cubic" ∨ sys = "Rhombohedral" → t3 = t1) :
    Gen.cellForSystem sys (t1 * c1) (t2 * c2) (t3 * c3) (Scalar.toDeg l1) (Scalar.toDeg l2) (Scalar.toDeg l3)
      = some (t1 * c1, t2 * c2, t3 * c3, l1, l2, l3) := by
  -- the names first, then `cellForSystem_spec` reads the table: `split_ifs` on both copies of the `if` chain is very slow to check
  rcases cellForSystem_names h with rfl | rfl | rfl | rfl | rfl | rfl | rfl <;>
    simp only [cellForSystem_spec, Option.some.injEq, Prod.mk.injEq] at h ⊢ <;>
    obtain ⟨rfl, rfl, rfl, rfl, rfl, rfl⟩ := h <;>
    simp [h12, h13]

/-- the accepted call forms and what they expand to (the inferred Hexagonal short form passes `(a, c)`) -/
theorem callForms (a b c be : ℝ) (hne : ¬ (|a - b| ≤ 1e-7 ∧ be = 120)) :
    CrystalModel.cellOfCall none [a] = some ("Cubic", (a, a, a, Real.pi / 2, Real.pi / 2, Real.pi / 2)) ∧
    CrystalModel.cellOfCall none [a, c] = some ("Tetragonal", (a, a, c, Real.pi / 2, Real.pi / 2, Real.pi / 2)) ∧
    CrystalModel.cellOfCall none [a, b, c] = some ("Orthorhombic", (a, b, c, Real.pi / 2, Real.pi / 2, Real.pi / 2)) ∧
    CrystalModel.cellOfCall none [a, b, c, be] = some ("Monoclinic", (a, b, c, Real.pi / 2, Scalar.toRad be, Real.pi / 2)) ∧
    CrystalModel.cellOfCall none [a, a, c, 120] = some ("Hexagonal", (a, a, c, Real.pi / 2, Real.pi / 2, 2 * Real.pi / 3)) ∧
    CrystalModel.cellOfCall (some "Hexagonal") [a, c] = some ("Hexagonal", (a, a, c, Real.pi / 2, Real.pi / 2, 2 * Real.pi / 3)) ∧
    CrystalModel.cellOfCall none [a, b] ≠ none ∧ CrystalModel.cellOfCall none [a, b, c, be, be] = none ∧
    CrystalModel.cellOfCall (some "Cubic") [a, b] = none := by
  -- one pass over the call-form tables; `cellForSystem_spec` reads the system table
  simp [CrystalModel.cellOfCall, CrystalModel.inferForm, CrystalModel.cellOfSystem, CrystalModel.fieldsFor, Gen.systemFields,
    CrystalModel.fill, CrystalModel.Fields.set, cellForSystem_spec, C01.isSmall_real, hne, show (0 : ℝ) ≤ 1e-7 by norm_num]

/-- non-vacuity: a strongly oblique admissible cell -/
example : ∃ k : Cell, k.al1 = Real.pi / 3 ∧ k.al2 = Real.pi / 2 ∧ k.al3 = 2 * Real.pi / 3 :=
  ⟨⟨4, 5, 6, Real.pi / 3, Real.pi / 2, 2 * Real.pi / 3, by norm_num, by norm_num, by norm_num,
    ⟨by positivity, by linarith [Real.pi_pos]⟩, ⟨by positivity, by linarith [Real.pi_pos]⟩, ⟨by positivity, by linarith [Real.pi_pos]⟩,
    by
      have h3 : Real.cos (2 * Real.pi / 3) = -(1/2) := by
        have : 2 * Real.pi / 3 = Real.pi - Real.pi / 3 := by ring
        rw [this, Real.cos_pi_sub, Real.cos_pi_div_three]
      rw [Real.cos_pi_div_three, Real.cos_pi_div_two, h3]; norm_num⟩, rfl, rfl, rfl⟩

/-! ## names this property's check refers to; each restates a fact proved elsewhere -/

theorem inv_unique (a x : M3 ℝ) (h : M3.det a ≠ 0) (hx : M3.mul a x = M3.id) : x = M3.inv a := M3.inv_unique a x h hx
theorem transpose_transpose (a : M3 ℝ) : M3.transpose (M3.transpose a) = a := rfl
namespace Cell
variable (k : Cell)
theorem one_sub_x2_sq : 1 - k.x2 ^ 2 = k.W / (k.s1 ^ 2 * k.s3 ^ 2) := k.beta2.1
theorem sin_beta2 : Real.sin (Real.arccos k.x2) = Real.sqrt k.W / (k.s1 * k.s3) := k.beta2.2.2
end Cell
end
end C06
