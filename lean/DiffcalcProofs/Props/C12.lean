import Diffcalc.Solver.Mode
import DiffcalcProofs.RealScalar
/-!
# C12 — queries are pure: no state change, same answer every time

Model: the calculator is the immutable record `Calc`; the three queries are *functions* of `(Calc, arguments)` in the model
(`Solver.getPosition`, `Solver.getHkl`, `Solver.virtualAngles`), so in the model a query cannot change state and its answer
cannot depend on earlier queries.  What the theorems below state is therefore a property of the MODEL's shape:

* `query_frame` / `queries_frame`: running any sequence of queries leaves the calculator record unchanged;
* `query_history_independent`: the answer to a query after any sequence of other queries (including failing ones) equals the
  answer on the untouched calculator;
* `naz_split_fresh`: the one place where the implementation mutates something during a query — `det_constraint.pop("naz")` —
  acts on a dictionary rebuilt from the constraint objects at every access; in the model `Mode.ofCons` reads the constraint
  list and returns a new value, the list is not consumed.

The weight of C12 is carried by the tie, and the check says so: histories of mixed queries (returning and raising, naz modes,
the caller editing a `Position` object in place between calls) on one calculator object, with a deep snapshot — pickled
`asdict`, raw `U`/`UB` bytes, constraint values, identities of the nested containers — compared before and after every call,
and every answer compared with the answer of a freshly built calculator in the same state.
-/
namespace C12
open Solver
noncomputable section

/-- the calculator as the queries see it -/
structure Calc where
  ub : UBIn ℝ
  cons : ConList ℝ

inductive Query
  | getPosition (hkl : V3 ℝ) (wl : ℝ)
  | getHkl (p : Pos ℝ) (wl : ℝ)
  | virtualAngles (p : Pos ℝ)

inductive Answer
  | positions (r : Py (List (Pos ℝ × VAngles ℝ)))
  | hkl (v : V3 ℝ)
  | angles (r : Py (VAngles ℝ))
  | notImplemented

/-- a query returns an answer and the (same) calculator: the model of "the call returns or raises" -/
def run (c : Calc) : Query → Calc × Answer
  | .getPosition hkl wl =>
    match Mode.ofCons c.cons with
    | none => (c, .notImplemented)
    | some mode => (c, .positions (getPosition c.ub mode hkl wl))
  | .getHkl p wl => (c, .hkl (getHkl c.ub p wl))
  | .virtualAngles p => (c, .angles (virtualAngles c.ub p))

def runAll (c : Calc) : List Query → Calc × List Answer
  | [] => (c, [])
  | q :: qs => let (c1, a) := run c q; let (c2, as) := runAll c1 qs; (c2, a :: as)

theorem query_frame (c : Calc) (q : Query) : (run c q).1 = c := by
  cases q with
  | getPosition hkl wl =>
    -- implemented or not, the same calculator comes back
    simp only [run]
    split <;> rfl
  | getHkl p wl => rfl
  | virtualAngles p => rfl

theorem queries_frame (c : Calc) (qs : List Query) : (runAll c qs).1 = c := by
  induction qs generalizing c with
  | nil => rfl
  | cons q qs ih => simp only [runAll]; rw [query_frame]; exact ih c

/-- the answer to `q` after any history of queries is the answer on the untouched calculator -/
theorem query_history_independent (c : Calc) (qs : List Query) (q : Query) :
    (run (runAll c qs).1 q).2 = (run c q).2 := by rw [queries_frame]

/-- repeating a query gives the identical answer -/
theorem query_deterministic (c : Calc) (q : Query) : (run (run c q).1 q).2 = (run c q).2 := by rw [query_frame]

/-- the `naz` entry is looked up, never removed from the calculator's constraint list -/
theorem naz_split_fresh (c : Calc) (hkl : V3 ℝ) (wl : ℝ) : (run c (.getPosition hkl wl)).1.cons = c.cons := by
  rw [query_frame]

example (c : Calc) (hkl : V3 ℝ) (p : Pos ℝ) :
    (run (runAll c [.getPosition hkl 1, .virtualAngles p, .getPosition ⟨0, 0, 0⟩ 1]).1 (.getPosition hkl 1)).2 = (run c (.getPosition hkl 1)).2 :=
  query_history_independent c _ _
end
end C12
