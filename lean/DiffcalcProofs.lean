import DiffcalcProofs.Lemmas.AxisRot
import DiffcalcProofs.Props.C09
import DiffcalcProofs.Props.C10
import DiffcalcProofs.Props.C18
import DiffcalcProofs.Props.C16
import DiffcalcProofs.Props.C08
import DiffcalcProofs.Props.C08Miscut
import DiffcalcProofs.Props.C19
import DiffcalcProofs.Props.C04
import DiffcalcProofs.Props.C06
import DiffcalcProofs.Props.C06Angle
import DiffcalcProofs.Props.C11
import DiffcalcProofs.Props.C02
import DiffcalcProofs.Props.C02Bisect
import DiffcalcProofs.Props.C01
import DiffcalcProofs.Props.C01Sample
import DiffcalcProofs.Props.C01Reference
import DiffcalcProofs.Props.C01Detector
import DiffcalcProofs.Props.CalcN
import DiffcalcProofs.Props.Pipeline
import DiffcalcProofs.Props.C01Assembly
import DiffcalcProofs.Props.C03
import DiffcalcProofs.Props.C03Sample
import DiffcalcProofs.Props.C03Assembly
import DiffcalcProofs.Props.C03Detector
import DiffcalcProofs.Props.C03Reference
import DiffcalcProofs.Props.C03Assembly2
import DiffcalcProofs.Props.C03Assembly3
import DiffcalcProofs.Props.C05
import DiffcalcProofs.Props.C05Geo
import DiffcalcProofs.Props.C05Psi
import DiffcalcProofs.Props.C13
import DiffcalcProofs.Props.C12
import DiffcalcProofs.Props.C20
import DiffcalcProofs.Props.C20Round
import DiffcalcProofs.Props.C07
import DiffcalcProofs.Props.C10Bulk
import DiffcalcProofs.Props.C14
import DiffcalcProofs.Props.C15
import DiffcalcProofs.Props.TieSolver
