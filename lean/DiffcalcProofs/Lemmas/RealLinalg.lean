import Diffcalc.Linalg
import DiffcalcProofs.RealScalar
import Mathlib.Tactic.LinearCombination
/-!
# `V3 ℝ` and `M3 ℝ`: the model's vectors and matrices over the reals

* `rs_*`: what each `Scalar` operation is at `ℝ`; every unfolding of a numeric model definition ends with them;
* the norm of a vector: non-negative, zero at the null vector only, homogeneous;
* matrices: what a product or a multiple does to a vector, that the transpose is the adjoint, and the identities of `det` are
  finite polynomial identities and proved as such (unfold, then `ring` entry by entry); identities between products of matrices
  then follow from the action on vectors, which determines a matrix (`ext_mulVec`);
* the inverse: one Cramer identity, `adj a · a = det a · 1`; every other fact about `inv` comes from the uniqueness of the
  inverse, none from its nine entries;
* `M3.IsRot`, the proper rotations (what they preserve is in `Lemmas/Vector.lean`).
-/
noncomputable section
open Scalar

@[simp] theorem rs_zero : (Scalar.zero : ℝ) = 0 := Nat.cast_zero
@[simp] theorem rs_one : (Scalar.one : ℝ) = 1 := Nat.cast_one
@[simp] theorem rs_two : (Scalar.two : ℝ) = 2 := Nat.cast_ofNat
theorem rs_SMALL : (Scalar.SMALL : ℝ) = 1e-7 := rfl
@[simp] theorem rs_ofNat (n : Nat) : (Scalar.ofNat n : ℝ) = n := rfl
@[simp] theorem rs_sin (x : ℝ) : Scalar.sin x = Real.sin x := rfl
@[simp] theorem rs_cos (x : ℝ) : Scalar.cos x = Real.cos x := rfl
@[simp] theorem rs_tan (x : ℝ) : Scalar.tan x = Real.tan x := rfl
@[simp] theorem rs_sqrt (x : ℝ) : Scalar.sqrt x = Real.sqrt x := rfl
@[simp] theorem rs_asin (x : ℝ) : Scalar.asin x = Real.arcsin x := rfl
@[simp] theorem rs_acos (x : ℝ) : Scalar.acos x = Real.arccos x := rfl
@[simp] theorem rs_atan (x : ℝ) : Scalar.atan x = Real.arctan x := rfl
@[simp] theorem rs_atan2 (y x : ℝ) : Scalar.atan2 y x = atan2R y x := rfl
@[simp] theorem rs_pi : (Scalar.pi : ℝ) = Real.pi := rfl
@[simp] theorem rs_abs (x : ℝ) : Scalar.abs x = |x| := rfl
@[simp] theorem rs_lt (a b : ℝ) : Scalar.lt a b = decide (a < b) := rfl
@[simp] theorem rs_le (a b : ℝ) : Scalar.le a b = decide (a ≤ b) := rfl
@[simp] theorem rs_beq (a b : ℝ) : Scalar.beq a b = decide (a = b) := rfl

namespace V3
@[ext] theorem ext' {u v : V3 ℝ} (hx : u.x = v.x) (hy : u.y = v.y) (hz : u.z = v.z) : u = v := by
  cases u; cases v; congr

theorem smul_smul (c d : ℝ) (v : V3 ℝ) : smul c (smul d v) = smul (c * d) v := by
  ext <;> exact (mul_assoc c d _).symm

theorem one_smul (v : V3 ℝ) : smul 1 v = v := by ext <;> exact one_mul _

/-! ## the norm -/

theorem normSq_nonneg (v : V3 ℝ) : 0 ≤ normSq v :=
  add_nonneg (add_nonneg (mul_self_nonneg v.x) (mul_self_nonneg v.y)) (mul_self_nonneg v.z)

theorem norm_nonneg (v : V3 ℝ) : 0 ≤ norm v := Real.sqrt_nonneg _

theorem norm_mul_self (v : V3 ℝ) : norm v * norm v = dot v v := Real.mul_self_sqrt (normSq_nonneg v)

theorem norm_sq (v : V3 ℝ) : norm v ^ 2 = normSq v := (pow_two _).trans (norm_mul_self v)

theorem normSq_eq_zero_iff (v : V3 ℝ) : normSq v = 0 ↔ v = ⟨0, 0, 0⟩ := by
  rw [V3.ext'_iff]
  exact (add_eq_zero_iff_of_nonneg (add_nonneg (mul_self_nonneg v.x) (mul_self_nonneg v.y)) (mul_self_nonneg v.z)).trans
    (by rw [mul_self_add_mul_self_eq_zero, mul_self_eq_zero, and_assoc])

theorem norm_pos_iff_ne (v : V3 ℝ) : 0 < norm v ↔ v ≠ ⟨0, 0, 0⟩ := by
  rw [norm, rs_sqrt, Real.sqrt_pos, (normSq_nonneg v).lt_iff_ne', Ne, normSq_eq_zero_iff]

theorem norm_pos_iff (v : V3 ℝ) : 0 < norm v ↔ (v.x ≠ 0 ∨ v.y ≠ 0 ∨ v.z ≠ 0) := by
  rw [norm_pos_iff_ne, Ne, V3.ext'_iff, not_and_or, not_and_or]

theorem eq_zero_of_norm_eq_zero {v : V3 ℝ} (h : norm v = 0) : v = ⟨0, 0, 0⟩ :=
  by_contra fun hne => ((norm_pos_iff_ne v).mpr hne).ne' h

theorem normSq_smul (t : ℝ) (v : V3 ℝ) : normSq (smul t v) = t ^ 2 * normSq v := by
  simp only [normSq, dot, smul]; ring

theorem norm_smul_pos (c : ℝ) (hc : 0 < c) (v : V3 ℝ) : norm (smul c v) = c * norm v := by
  rw [norm, normSq_smul, rs_sqrt, Real.sqrt_mul (sq_nonneg c), Real.sqrt_sq hc.le, norm, rs_sqrt]
end V3

namespace M3
@[ext (iff := false)] theorem ext' {a b : M3 ℝ} (h00 : a.a00 = b.a00) (h01 : a.a01 = b.a01) (h02 : a.a02 = b.a02)
    (h10 : a.a10 = b.a10) (h11 : a.a11 = b.a11) (h12 : a.a12 = b.a12)
    (h20 : a.a20 = b.a20) (h21 : a.a21 = b.a21) (h22 : a.a22 = b.a22) : a = b := by
  cases a; cases b; congr

/-! ## products -/

theorem mulVec_mul (a b : M3 ℝ) (v : V3 ℝ) : mulVec (mul a b) v = mulVec a (mulVec b v) := by
  simp only [mulVec, mul]; congr 1 <;> ring

/-- a matrix is what it does to vectors: to the three unit vectors already -/
theorem ext_mulVec {a b : M3 ℝ} (h : ∀ v, mulVec a v = mulVec b v) : a = b := by
  have hx := h ⟨1, 0, 0⟩
  have hy := h ⟨0, 1, 0⟩
  have hz := h ⟨0, 0, 1⟩
  simp only [mulVec, mul_one, mul_zero, add_zero, zero_add, V3.mk.injEq] at hx hy hz
  ext <;> simp only [hx, hy, hz]

theorem mul_assoc' (a b c : M3 ℝ) : mul (mul a b) c = mul a (mul b c) :=
  ext_mulVec fun v => by rw [mulVec_mul, mulVec_mul, mulVec_mul, mulVec_mul]

theorem mulVec_id (v : V3 ℝ) : mulVec id v = v := by
  simp only [mulVec, id, rs_one, rs_zero, one_mul, zero_mul, add_zero, zero_add]

theorem mul_id (a : M3 ℝ) : mul a id = a := ext_mulVec fun v => by rw [mulVec_mul, mulVec_id]

theorem id_mul (a : M3 ℝ) : mul id a = a := ext_mulVec fun v => by rw [mulVec_mul, mulVec_id]

theorem mulVec_sub (a : M3 ℝ) (u v : V3 ℝ) : mulVec a (V3.sub u v) = V3.sub (mulVec a u) (mulVec a v) := by
  simp only [mulVec, V3.sub]; congr 1 <;> ring

theorem mulVec_sub_id (a : M3 ℝ) (v : V3 ℝ) : mulVec (sub a id) v = V3.sub (mulVec a v) v := by
  simp only [mulVec, sub, id, V3.sub, rs_one, rs_zero]; congr 1 <;> ring

theorem mulVec_zero (a : M3 ℝ) : mulVec a ⟨0, 0, 0⟩ = ⟨0, 0, 0⟩ := by
  simp only [mulVec, mul_zero, add_zero]

/-- entry by entry the same sum, with the two factors of each product exchanged -/
theorem transpose_mul (a b : M3 ℝ) : transpose (mul a b) = mul (transpose b) (transpose a) := by
  simp only [transpose, mul, mul_comm]

theorem transpose_transpose (a : M3 ℝ) : transpose (transpose a) = a := rfl

theorem transpose_id : transpose (id : M3 ℝ) = id := rfl

/-- the transpose is the adjoint -/
theorem dot_mulVec_left (a : M3 ℝ) (u v : V3 ℝ) : V3.dot (mulVec a u) v = V3.dot u (mulVec (transpose a) v) := by
  simp only [V3.dot, mulVec, transpose]; ring

/-- `(b u)·(b v) = uᵀ (bᵀ b) v` -/
theorem dot_mulVec_mulVec (b : M3 ℝ) (u v : V3 ℝ) :
    V3.dot (mulVec b u) (mulVec b v) = V3.dot u (mulVec (mul (transpose b) b) v) := by
  rw [dot_mulVec_left, mulVec_mul]

theorem dot_mulVec_transpose_mul (b : M3 ℝ) (v : V3 ℝ) :
    V3.dot v (mulVec (mul (transpose b) b) v) = V3.normSq (mulVec b v) := (dot_mulVec_mulVec b v v).symm

/-! ## scalar multiples -/

theorem mulVec_smul (a : M3 ℝ) (c : ℝ) (v : V3 ℝ) : mulVec a (V3.smul c v) = V3.smul c (mulVec a v) := by
  simp only [mulVec, V3.smul]; congr 1 <;> ring

theorem smul_mulVec (c : ℝ) (a : M3 ℝ) (v : V3 ℝ) : mulVec (smul c a) v = V3.smul c (mulVec a v) := by
  simp only [mulVec, smul, V3.smul]; congr 1 <;> ring

theorem smul_mul (c : ℝ) (a b : M3 ℝ) : mul (smul c a) b = smul c (mul a b) :=
  ext_mulVec fun v => by rw [mulVec_mul, smul_mulVec, smul_mulVec, mulVec_mul]

theorem mul_smul (c : ℝ) (a b : M3 ℝ) : mul a (smul c b) = smul c (mul a b) :=
  ext_mulVec fun v => by rw [mulVec_mul, smul_mulVec, mulVec_smul, smul_mulVec, mulVec_mul]

theorem smul_smul (c d : ℝ) (a : M3 ℝ) : smul c (smul d a) = smul (c * d) a := by
  simp only [smul, mul_assoc]

theorem one_smul (a : M3 ℝ) : smul 1 a = a := by simp only [smul, _root_.one_mul]

theorem transpose_smul (c : ℝ) (a : M3 ℝ) : transpose (smul c a) = smul c (transpose a) := rfl

theorem sdiv_eq_smul (a : M3 ℝ) (c : ℝ) : sdiv a c = smul (1 / c) a := by
  simp only [sdiv, smul, one_div, inv_mul_eq_div]

/-- right multiplication by a diagonal matrix scales the columns -/
theorem mul_diag (a : M3 ℝ) (x y z : ℝ) : mul a ⟨x, 0, 0, 0, y, 0, 0, 0, z⟩
    = ⟨a.a00 * x, a.a01 * y, a.a02 * z, a.a10 * x, a.a11 * y, a.a12 * z, a.a20 * x, a.a21 * y, a.a22 * z⟩ := by
  simp only [mul, mul_zero, add_zero, zero_add]

theorem mul_scalar (a : M3 ℝ) (c : ℝ) : mul a ⟨c, 0, 0, 0, c, 0, 0, 0, c⟩ = smul c a := by
  rw [mul_diag]; ext <;> exact mul_comm _ _

/-! ## the determinant -/

theorem det_mul (a b : M3 ℝ) : det (mul a b) = det a * det b := by
  simp only [det, mul]; ring

theorem det_transpose (a : M3 ℝ) : det (transpose a) = det a := by
  simp only [det, transpose]; ring

theorem det_smul (c : ℝ) (a : M3 ℝ) : det (smul c a) = c ^ 3 * det a := by
  simp only [det, smul]; ring

theorem det_id : det (id : M3 ℝ) = 1 := by simp only [det, id, rs_one, rs_zero]; norm_num

/-! ## the inverse

`inv a = (1 / det a) • adj a` is a left inverse by Cramer's rule; that it is a right inverse too, and what the inverse of a
product, a transpose, a multiple, an inverse is, then follows from `inv_unique`. -/

/-- Cramer's rule -/
theorem adj_mul (a : M3 ℝ) : mul (adj a) a = smul (det a) id := by
  simp only [mul, adj, smul, det, id, rs_one, rs_zero]; congr 1 <;> ring

theorem inv_mul_cancel (a : M3 ℝ) (h : det a ≠ 0) : mul (inv a) a = id := by
  rw [inv, smul_mul, adj_mul, smul_smul, rs_one, one_div_mul_cancel h, one_smul]

theorem inv_unique (a x : M3 ℝ) (h : det a ≠ 0) (hx : mul a x = id) : x = inv a := by
  rw [← id_mul x, ← inv_mul_cancel a h, mul_assoc', hx, mul_id]

theorem det_ne_of_mul_eq_id {a b : M3 ℝ} (h : mul a b = id) : det a ≠ 0 := by
  intro h0
  have := congrArg det h
  rw [det_mul, h0, zero_mul, det_id] at this
  exact zero_ne_one this

theorem mul_eq_id_comm {a b : M3 ℝ} (h : mul a b = id) : mul b a = id := by
  have hd := det_ne_of_mul_eq_id h
  rw [inv_unique a b hd h, inv_mul_cancel a hd]

theorem mul_inv_cancel (a : M3 ℝ) (h : det a ≠ 0) : mul a (inv a) = id := mul_eq_id_comm (inv_mul_cancel a h)

theorem mul_eq_smul_id_comm {a b : M3 ℝ} {c : ℝ} (hc : c ≠ 0) (h : mul a b = smul c id) : mul b a = smul c id := by
  have h1 : mul a (smul (1 / c) b) = id := by rw [mul_smul, h, smul_smul, one_div_mul_cancel hc, one_smul]
  have h2 := congrArg (smul c) (mul_eq_id_comm h1)
  rwa [smul_mul, smul_smul, mul_one_div_cancel hc, one_smul] at h2

theorem det_inv_ne (a : M3 ℝ) (h : det a ≠ 0) : det (inv a) ≠ 0 :=
  det_ne_of_mul_eq_id (inv_mul_cancel a h)

theorem inv_inv (a : M3 ℝ) (h : det a ≠ 0) : inv (inv a) = a :=
  (inv_unique _ a (det_inv_ne a h) (inv_mul_cancel a h)).symm

theorem inv_mul (a b : M3 ℝ) (ha : det a ≠ 0) (hb : det b ≠ 0) : inv (mul a b) = mul (inv b) (inv a) := by
  symm; apply inv_unique _ _ (by rw [det_mul]; exact mul_ne_zero ha hb)
  rw [mul_assoc', ← mul_assoc' b, mul_inv_cancel b hb, id_mul, mul_inv_cancel a ha]

theorem inv_transpose (a : M3 ℝ) (h : det a ≠ 0) : inv (transpose a) = transpose (inv a) := by
  symm; apply inv_unique _ _ (by rwa [det_transpose])
  rw [← transpose_mul, inv_mul_cancel a h, transpose_id]

theorem inv_smul (c : ℝ) (hc : c ≠ 0) (a : M3 ℝ) (h : det a ≠ 0) : inv (smul c a) = smul (1 / c) (inv a) := by
  symm; apply inv_unique _ _ (by rw [det_smul]; exact mul_ne_zero (pow_ne_zero 3 hc) h)
  rw [smul_mul, mul_smul, smul_smul, mul_inv_cancel a h, mul_one_div_cancel hc, one_smul]

theorem inv_mulVec_cancel (a : M3 ℝ) (h : det a ≠ 0) (v : V3 ℝ) : mulVec (inv a) (mulVec a v) = v := by
  rw [← mulVec_mul, inv_mul_cancel a h, mulVec_id]

theorem mulVec_inv_cancel (a : M3 ℝ) (h : det a ≠ 0) (v : V3 ℝ) : mulVec a (mulVec (inv a) v) = v := by
  rw [← mulVec_mul, mul_inv_cancel a h, mulVec_id]

/-- a matrix with a left inverse sends no non-zero vector to zero: if `b v = 0` then `v = a (b v) = a 0 = 0` -/
theorem mulVec_eq_zero_iff {a b : M3 ℝ} (hab : ∀ w, mulVec a (mulVec b w) = w) {v : V3 ℝ} :
    mulVec b v = ⟨0, 0, 0⟩ ↔ v = ⟨0, 0, 0⟩ :=
  ⟨fun h => by rw [← hab v, h, mulVec_zero], fun h => by rw [h, mulVec_zero]⟩

/-! the same read through the norm, and in coordinates for an invertible matrix -/

theorem norm_mulVec_pos {a b : M3 ℝ} (hab : ∀ w, mulVec a (mulVec b w) = w) (v : V3 ℝ) (hv : 0 < V3.norm v) :
    0 < V3.norm (mulVec b v) := by
  rwa [V3.norm_pos_iff_ne, Ne, mulVec_eq_zero_iff hab, ← Ne, ← V3.norm_pos_iff_ne]

theorem normSq_mulVec_eq_zero {B : M3 ℝ} (hdet : det B ≠ 0) (v : V3 ℝ) :
    V3.normSq (mulVec B v) = 0 ↔ v.x = 0 ∧ v.y = 0 ∧ v.z = 0 := by
  rw [V3.normSq_eq_zero_iff, mulVec_eq_zero_iff (inv_mulVec_cancel B hdet), V3.ext'_iff]

/-! ## proper rotations -/

/-- a proper rotation: orthonormal with determinant +1 -/
def IsRot (r : M3 ℝ) : Prop := mul (transpose r) r = id ∧ det r = 1

theorem IsRot.mul {a b : M3 ℝ} (ha : IsRot a) (hb : IsRot b) : IsRot (M3.mul a b) := by
  refine ⟨?_, by rw [det_mul, ha.2, hb.2, mul_one]⟩
  rw [transpose_mul, mul_assoc', ← mul_assoc' (transpose a) a b, ha.1, id_mul, hb.1]

theorem isRot_id : IsRot (id : M3 ℝ) := ⟨by rw [transpose_id, mul_id], det_id⟩
end M3
end
