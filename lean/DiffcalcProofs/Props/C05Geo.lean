import Diffcalc.Solver.Calc
import DiffcalcProofs.Lemmas.PyCalc
/-!
# C05 — incidence and exit angles of the surface against their geometric definitions

`betain = asin(−ŝ·k̂_i)`, `betaout = asin(ŝ·k̂_f)` (ŝ the surface normal in the laboratory frame): the code computes them through
`angle_between_vectors` and a 90° shift.
-/
namespace C05
open M3 Solver Scalar PyOps
noncomputable section

/-- `angle_between_vectors` in closed form (degrees of the arccosine of the normalised dot product) -/
theorem angleBetween_eq (x y : V3 ℝ) :
    angleBetween x y = .ok (Scalar.toDeg (Real.arccos (V3.dot (V3.smul (1 / V3.norm x) x) (V3.smul (1 / V3.norm y) y)))) :=
  by rw [V3.smul_inv_norm, V3.smul_inv_norm]; exact _root_.angleBetween_eq x y

theorem shift_in (c : ℝ) : Scalar.toRad (Scalar.toDeg (Real.arccos c)) - Real.pi / 2 = Real.arcsin (-c) := by
  rw [scalar_toRad_toDeg, Real.arccos_eq_pi_div_two_sub_arcsin, Real.arcsin_neg]; ring

theorem shift_out (c : ℝ) : Real.pi / 2 - Scalar.toRad (Scalar.toDeg (Real.arccos c)) = Real.arcsin c := by
  rw [scalar_toRad_toDeg, Real.arccos_eq_pi_div_two_sub_arcsin]; ring

/-- **betain, betaout**: whatever the length of the surface vector, the returned incidence / exit angles are `asin(−ŝ·k̂_i)` and `asin(ŝ·k̂_f)` -/
theorem betain_betaout_geometric (ub : UBIn ℝ) (p : Pos ℝ) (va : VAngles ℝ) (h : virtualAngles ub p = .ok va) :
    let r := p.rad
    let Z := M3.mul (M3.mul (M3.mul (Gen.rot_MU r.mu) (Gen.rot_ETA r.eta)) (Gen.rot_CHI r.chi)) (Gen.rot_PHI r.phi)
    let s := M3.mulVec Z ub.surf_nphi
    let kin : V3 ℝ := ⟨0, 1, 0⟩
    let kout := M3.mulVec (M3.mul (Gen.rot_NU r.nu) (Gen.rot_DELTA r.delta)) ⟨0, 1, 0⟩
    va.betain = Scalar.toDeg (Real.arcsin (-(V3.dot (V3.smul (1 / V3.norm kin) kin) (V3.smul (1 / V3.norm s) s)))) ∧
    va.betaout = Scalar.toDeg (Real.arcsin (V3.dot (V3.smul (1 / V3.norm kout) kout) (V3.smul (1 / V3.norm s) s))) := by
  unfold virtualAngles at h
  obtain ⟨a1, h1, h⟩ := bind_ok_inv h
  obtain ⟨a2, h2, h⟩ := bind_ok_inv h
  -- after `alpha` there is either no `tau` and no `beta`, or both; whichever way the rest comes through, the record takes these two
  -- fields from `a1`, `a2`  (`m := boundAsin _` lets the `pure (some t) >>= …` in front of the `beta` step reduce)
  have hva : va.betain = toDeg (toRad a1 - pi / two) ∧ va.betaout = toDeg (pi / two - toRad a2) := by
    obtain ⟨_, -, h⟩ := bind_ok_inv h
    obtain ⟨-, h⟩ | ⟨-, h⟩ := ite_eq_iff.mp h
    · cases h
      exact ⟨rfl, rfl⟩
    · obtain ⟨_, -, h⟩ := bind_ok_inv h
      obtain ⟨_, -, h⟩ := bind_ok_inv (m := boundAsin _) h
      cases h
      exact ⟨rfl, rfl⟩
  rw [rs_zero, rs_one, angleBetween_eq] at h1 h2
  cases h1
  cases h2
  exact ⟨hva.1.trans (congrArg toDeg (shift_in _)), hva.2.trans (congrArg toDeg (shift_out _))⟩
end
end C05
