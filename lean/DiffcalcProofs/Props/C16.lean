import Diffcalc.Model.Frames
import DiffcalcProofs.Lemmas.Vector
/-!
# C16 — reference and surface vectors convert consistently between hkl and lab frames

Model: `Diffcalc/Model/Frames.lean` (hand, tie H: all frame / UB combinations and setter orders against the real
`UBCalculation` properties).  Real-number reading.
-/
namespace C16
open Frames
noncomputable section

variable (s : Frames ℝ)

/-- the value reported in the frame in which a vector was set is the value set — for both vectors,
    with or without a UB matrix, whatever the other vector is -/
theorem same_frame (v : V3 ℝ) :
    (s.set_n_hkl v).n_hkl = some v ∧ (s.set_n_phi v).n_phi = some v ∧
    (s.set_surf_nhkl v).surf_nhkl = some v ∧ (s.set_surf_nphi v).surf_nphi = some v :=
  ⟨rfl, rfl, rfl, rfl⟩

/-- the value in the other frame is the unit vector along `UB·v` (resp. `UB⁻¹·v`) -/
theorem other_frame (v : V3 ℝ) (ub : M3 ℝ) (h : s.UB = some ub) :
    (s.set_n_hkl v).n_phi = some (V3.unit (M3.mulVec ub v)) ∧
    (s.set_n_phi v).n_hkl = some (V3.unit (M3.mulVec (M3.inv ub) v)) ∧
    (s.set_surf_nhkl v).surf_nphi = some (V3.unit (M3.mulVec ub v)) ∧
    (s.set_surf_nphi v).surf_nhkl = some (V3.unit (M3.mulVec (M3.inv ub) v)) := by
  simp [n_hkl, n_phi, surf_nhkl, surf_nphi, set_n_hkl, set_n_phi, set_surf_nhkl, set_surf_nphi, hklOf, phiOf,
    convert, h]

theorem hklOf_eq_none (r : RefVec ℝ) (ub : Option (M3 ℝ)) : hklOf r ub = none ↔ (r.rlv = false ∧ ub = none) := by
  cases h : r.rlv <;> simp [hklOf, h]

theorem phiOf_eq_none (r : RefVec ℝ) (ub : Option (M3 ℝ)) : phiOf r ub = none ↔ (r.rlv = true ∧ ub = none) := by
  cases h : r.rlv <;> simp [phiOf, h]

/-- a frame's value is `None` exactly when it needs a UB matrix that does not exist —
    independently for the reference vector and for the surface normal -/
theorem none_iff :
    (s.n_hkl = none ↔ (s.reference.rlv = false ∧ s.UB = none)) ∧
    (s.n_phi = none ↔ (s.reference.rlv = true ∧ s.UB = none)) ∧
    (s.surf_nhkl = none ↔ (s.surface.rlv = false ∧ s.UB = none)) ∧
    (s.surf_nphi = none ↔ (s.surface.rlv = true ∧ s.UB = none)) :=
  ⟨hklOf_eq_none _ _, phiOf_eq_none _ _, hklOf_eq_none _ _, phiOf_eq_none _ _⟩

/-- the reported values of one vector do not depend on the other vector at all -/
theorem independent (r1 r2 : RefVec ℝ) :
    ({ s with surface := r1 } : Frames ℝ).n_hkl = ({ s with surface := r2 } : Frames ℝ).n_hkl ∧
    ({ s with surface := r1 } : Frames ℝ).n_phi = ({ s with surface := r2 } : Frames ℝ).n_phi ∧
    ({ s with reference := r1 } : Frames ℝ).surf_nhkl = ({ s with reference := r2 } : Frames ℝ).surf_nhkl ∧
    ({ s with reference := r1 } : Frames ℝ).surf_nphi = ({ s with reference := r2 } : Frames ℝ).surf_nphi :=
  ⟨rfl, rfl, rfl, rfl⟩

/-- the two reported values are consistent: the lab-frame value is parallel to `UB ·` the hkl-frame value
    (both are unit vectors along the same direction) -/
theorem frames_consistent (r : RefVec ℝ) (ub : M3 ℝ) (hdet : M3.det ub ≠ 0) (hv : 0 < V3.norm r.v)
    (vh vp : V3 ℝ) (hh : hklOf r (some ub) = some vh) (hp : phiOf r (some ub) = some vp) :
    V3.unit (M3.mulVec ub vh) = V3.unit vp := by
  cases hr : r.rlv with
  | true =>
    simp only [hklOf, phiOf, convert, hr, if_true, Option.map_some, Option.some.injEq] at hh hp
    subst hh hp
    exact (V3.unit_unit (M3.norm_mulVec_pos (M3.inv_mulVec_cancel ub hdet) r.v hv)).symm
  | false =>
    simp only [hklOf, phiOf, hr, Bool.false_eq_true, if_false, Option.map_some, convert, Option.some.injEq] at hh hp
    subst hh hp
    exact M3.unit_mulVec_unit (M3.mulVec_inv_cancel ub hdet) r.v hv

/-- reading a vector in the other frame and setting it back keeps its lab-frame direction
    (so, by C05, every pseudo-angle): lab-frame vector read as hkl and set back -/
theorem setback_hkl (v : V3 ℝ) (ub : M3 ℝ) (hdet : M3.det ub ≠ 0) (hv : 0 < V3.norm v) (h : s.UB = some ub)
    (w : V3 ℝ) (hw : (s.set_n_phi v).n_hkl = some w) :
    ((s.set_n_phi v).set_n_hkl w).n_phi = some (V3.unit v) := by
  rw [(other_frame s v ub h).2.1] at hw
  cases hw
  rw [(other_frame (s.set_n_phi v) _ ub h).1]
  exact congrArg some (M3.unit_mulVec_unit (M3.mulVec_inv_cancel ub hdet) v hv)

/-- hkl-frame vector read in the lab frame and set back: the hkl-frame direction is kept -/
theorem setback_phi (v : V3 ℝ) (ub : M3 ℝ) (hdet : M3.det ub ≠ 0) (hv : 0 < V3.norm v) (h : s.UB = some ub)
    (w : V3 ℝ) (hw : (s.set_n_hkl v).n_phi = some w) :
    ((s.set_n_hkl v).set_n_phi w).n_hkl = some (V3.unit v) := by
  rw [(other_frame s v ub h).1] at hw
  cases hw
  rw [(other_frame (s.set_n_hkl v) _ ub h).2.1]
  exact congrArg some (M3.unit_mulVec_unit (M3.inv_mulVec_cancel ub hdet) v hv)

/-- non-vacuity: the defaults of a fresh calculation — reference needs UB for the lab frame, the surface does not -/
example : (Frames.init : Frames ℝ).n_phi = none ∧ (Frames.init : Frames ℝ).surf_nphi = some V3.ez ∧
    (Frames.init : Frames ℝ).surf_nhkl = none ∧ (Frames.init : Frames ℝ).n_hkl = some V3.ex :=
  ⟨rfl, rfl, rfl, rfl⟩
end
end C16
