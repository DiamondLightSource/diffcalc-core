import DiffcalcProofs.Lemmas.Rotations
import DiffcalcProofs.Lemmas.SolveTrig
/-!
# The axis rotations acting on vectors: what every sample branch uses of them

An axis rotation is a planar rotation in the plane normal to the axis and the identity along it (`rotX_mulVec_eq_iff` …), so the
circle that `atan2` solves for is fixed by `planar_solve` (existence) and `sameAngle_of_rot` (uniqueness).
-/
noncomputable section
open M3 C03

/-! ## the three axis rotations on a vector -/

theorem rotX_mulVec (t : ℝ) (v : V3 ℝ) :
    mulVec (rotX t) v = ⟨v.x, v.y * Real.cos t - v.z * Real.sin t, v.y * Real.sin t + v.z * Real.cos t⟩ := by
  simp only [mulVec, rotX, rs_cos, rs_sin, rs_one, rs_zero]; congr 1 <;> ring

theorem rotX_transpose_mulVec (t : ℝ) (v : V3 ℝ) :
    mulVec (transpose (rotX t)) v = ⟨v.x, v.y * Real.cos t + v.z * Real.sin t, -v.y * Real.sin t + v.z * Real.cos t⟩ := by
  simp only [mulVec, transpose, rotX, rs_cos, rs_sin, rs_one, rs_zero]; congr 1 <;> ring

theorem rotY_mulVec (t : ℝ) (v : V3 ℝ) :
    mulVec (rotY t) v = ⟨v.x * Real.cos t + v.z * Real.sin t, v.y, -v.x * Real.sin t + v.z * Real.cos t⟩ := by
  simp only [mulVec, rotY, rs_cos, rs_sin, rs_one, rs_zero]; congr 1 <;> ring

theorem rotZ_neg_mulVec (t : ℝ) (v : V3 ℝ) :
    mulVec (rotZ (-t)) v = ⟨v.x * Real.cos t + v.y * Real.sin t, -v.x * Real.sin t + v.y * Real.cos t, v.z⟩ := by
  simp only [mulVec, rotZ, rs_cos, rs_sin, rs_one, rs_zero, Real.cos_neg, Real.sin_neg]; congr 1 <;> ring

theorem rotZ_neg_transpose_mulVec (t : ℝ) (v : V3 ℝ) :
    mulVec (transpose (rotZ (-t))) v = ⟨v.x * Real.cos t - v.y * Real.sin t, v.x * Real.sin t + v.y * Real.cos t, v.z⟩ := by
  simp only [mulVec, transpose, rotZ, rs_cos, rs_sin, rs_one, rs_zero, Real.cos_neg, Real.sin_neg]; congr 1 <;> ring

/-! ## an axis rotation = a planar rotation normal to the axis + the identity along it -/

theorem rotZ_neg_mulVec_eq_iff (e : ℝ) (g w : V3 ℝ) :
    mulVec (rotZ (-e)) g = w ↔
      (g.x * Real.cos e + g.y * Real.sin e = w.x ∧ -g.x * Real.sin e + g.y * Real.cos e = w.y) ∧ g.z = w.z := by
  rw [rotZ_neg_mulVec, V3.ext'_iff, and_assoc]

theorem rotY_mulVec_eq_iff (c : ℝ) (g w : V3 ℝ) :
    mulVec (rotY c) g = w ↔
      (g.x * Real.cos c + g.z * Real.sin c = w.x ∧ -g.x * Real.sin c + g.z * Real.cos c = w.z) ∧ g.y = w.y := by
  rw [rotY_mulVec, V3.ext'_iff]; tauto

/-- `rotX` turns its plane the other way round than `rotY` and `rotZ (-·)` turn theirs (`y cos − z sin`, against `x cos + z sin`), so it is
    in the mirrored coordinates `(y, −z)` that it has the shape in which `planar_solve`, `planar_sq`, `sameAngle_of_rot` are stated -/
theorem rotX_mulVec_eq_iff (m : ℝ) (g w : V3 ℝ) :
    mulVec (rotX m) g = w ↔
      (g.y * Real.cos m + -g.z * Real.sin m = w.y ∧ -g.y * Real.sin m + -g.z * Real.cos m = -w.z) ∧ g.x = w.x := by
  rw [rotX_mulVec, V3.ext'_iff]
  constructor
  · rintro ⟨hx, hy, hz⟩; exact ⟨⟨by linear_combination hy, by linear_combination -hz⟩, hx⟩
  · rintro ⟨⟨hy, hz⟩, hx⟩; exact ⟨hx, by linear_combination hy, by linear_combination -hz⟩

/-- the eta (or phi, delta) circle that turns `g` onto `w`: `atan2` of the code's two arguments, whatever their spelling -/
theorem rotZ_neg_align {g w : V3 ℝ} {X Y : ℝ} (hn : g.x ^ 2 + g.y ^ 2 + g.z ^ 2 = w.x ^ 2 + w.y ^ 2 + w.z ^ 2) (hz : g.z = w.z)
    (hX : X = w.x * g.y - w.y * g.x) (hY : Y = w.x * g.x + w.y * g.y) : mulVec (rotZ (-atan2R X Y)) g = w :=
  (rotZ_neg_mulVec_eq_iff _ g w).mpr ⟨planar_solve (by rw [hz] at hn; exact add_right_cancel hn) hX hY, hz⟩

theorem rotZ_neg_unique {g w : V3 ℝ} {e e' : ℝ} (hne : g.x ^ 2 + g.y ^ 2 ≠ 0)
    (h : mulVec (rotZ (-e)) g = w) (h' : mulVec (rotZ (-e')) g = w) : SameAngle e e' :=
  have a := ((rotZ_neg_mulVec_eq_iff e g w).mp h).1
  have b := ((rotZ_neg_mulVec_eq_iff e' g w).mp h').1
  sameAngle_of_rot g.x g.y w.x w.y e e' hne a.1 a.2 b.1 b.2

theorem rotZ_neg_plane_sq {e : ℝ} {g w : V3 ℝ} (h : mulVec (rotZ (-e)) g = w) : g.x ^ 2 + g.y ^ 2 = w.x ^ 2 + w.y ^ 2 :=
  let ⟨⟨h1, h2⟩, _⟩ := (rotZ_neg_mulVec_eq_iff e g w).mp h
  planar_sq h1 h2

/-- the chi circle -/
theorem rotY_align {g w : V3 ℝ} {X Y : ℝ} (hn : g.x ^ 2 + g.y ^ 2 + g.z ^ 2 = w.x ^ 2 + w.y ^ 2 + w.z ^ 2) (hy : g.y = w.y)
    (hX : X = w.x * g.z - w.z * g.x) (hY : Y = w.x * g.x + w.z * g.z) : mulVec (rotY (atan2R X Y)) g = w :=
  (rotY_mulVec_eq_iff _ g w).mpr ⟨planar_solve (by rw [hy] at hn; linear_combination hn) hX hY, hy⟩

theorem rotY_unique {g w : V3 ℝ} {c c' : ℝ} (hne : g.x ^ 2 + g.z ^ 2 ≠ 0)
    (h : mulVec (rotY c) g = w) (h' : mulVec (rotY c') g = w) : SameAngle c c' :=
  have a := ((rotY_mulVec_eq_iff c g w).mp h).1
  have b := ((rotY_mulVec_eq_iff c' g w).mp h').1
  sameAngle_of_rot g.x g.z w.x w.z c c' hne a.1 a.2 b.1 b.2

theorem rotY_plane_sq {c : ℝ} {g w : V3 ℝ} (h : mulVec (rotY c) g = w) : g.x ^ 2 + g.z ^ 2 = w.x ^ 2 + w.z ^ 2 :=
  let ⟨⟨h1, h2⟩, _⟩ := (rotY_mulVec_eq_iff c g w).mp h
  planar_sq h1 h2

/-- the mu (or nu) circle -/
theorem rotX_align {g w : V3 ℝ} {X Y : ℝ} (hn : g.x ^ 2 + g.y ^ 2 + g.z ^ 2 = w.x ^ 2 + w.y ^ 2 + w.z ^ 2) (hx : g.x = w.x)
    (hX : X = w.z * g.y - w.y * g.z) (hY : Y = w.y * g.y + w.z * g.z) : mulVec (rotX (atan2R X Y)) g = w :=
  (rotX_mulVec_eq_iff _ g w).mpr
    ⟨planar_solve (by rw [hx] at hn; linear_combination hn) (by rw [hX]; ring) (by rw [hY]; ring), hx⟩

/-- the same circle as the sum of the polar angle of `(w.y, w.z)` and that of `(g.y, −g.z)` (`__calc_sample_con_eta_phi`) -/
theorem rotX_align_add {g w : V3 ℝ} {A B : ℝ} (hn : g.x ^ 2 + g.y ^ 2 + g.z ^ 2 = w.x ^ 2 + w.y ^ 2 + w.z ^ 2) (hx : g.x = w.x)
    (hA : A = -g.z) (hB : B = g.y) : mulVec (rotX (atan2R w.z w.y + atan2R A B)) g = w := by
  subst hA hB
  exact (rotX_mulVec_eq_iff _ g w).mpr ⟨planar_solve_add (by rw [hx] at hn; linear_combination hn), hx⟩

/-- the mu circle as `__calc_sample_con_eta_chi` spells it: with `a = −g_z`, `b = g_y`, `c = g_z`, the cross and the dot product of
    `(g_y, g_z)` and `(w_y, w_z)` are each multiplied by the sign of a determinant, which is `∓(g_y² + g_z²)` and so `∓1` away from
    the mu axis -/
theorem rotX_align_sign {g w : V3 ℝ} {a b c : ℝ} (hn : g.x ^ 2 + g.y ^ 2 + g.z ^ 2 = w.x ^ 2 + w.y ^ 2 + w.z ^ 2) (hx : g.x = w.x)
    (hrho : (1e-7 : ℝ) < w.y ^ 2 + w.z ^ 2) (ha : a = -g.z) (hb : b = g.y) (hc : c = g.z) :
    mulVec (rotX (atan2R ((w.y * c - w.z * b) * Scalar.sign (a * c - b * b)) ((w.y * b - w.z * a) * Scalar.sign (b * b - c * a)))) g = w := by
  have hlen : g.y * g.y + g.z * g.z = w.y ^ 2 + w.z ^ 2 := by rw [hx] at hn; linear_combination hn
  subst ha hb hc
  rw [C01.sign_neg_of _ ((show _ = -(w.y ^ 2 + w.z ^ 2) by linear_combination -hlen).trans_lt (neg_lt_neg hrho)),
    C01.sign_pos_of _ (hrho.trans_eq (by linear_combination -hlen))]
  exact rotX_align hn hx (by ring) (by ring)

theorem rotX_unique {g w : V3 ℝ} {m m' : ℝ} (hne : g.y ^ 2 + g.z ^ 2 ≠ 0)
    (h : mulVec (rotX m) g = w) (h' : mulVec (rotX m') g = w) : SameAngle m m' :=
  have a := ((rotX_mulVec_eq_iff m g w).mp h).1
  have b := ((rotX_mulVec_eq_iff m' g w).mp h').1
  sameAngle_of_rot g.y (-g.z) w.y (-w.z) m m' (by rwa [neg_sq]) a.1 a.2 b.1 b.2
end
