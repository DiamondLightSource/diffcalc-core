import DiffcalcProofs.Props.C03
import DiffcalcProofs.Props.C01Detector
import DiffcalcProofs.Props.Pipeline
/-!
# C03 — completeness of the detector layers from delta and from nu (`calc_detector.py`), and of the dispatcher over all three

A detector position `(delta, nu0)` / `(delta0, nu)` that satisfies the detector relation for some `qaz0` is among the triples
`_calc_remaining_detector_angles_delta` / `_nu` yield, modulo 2π in the two computed angles, on the generic branch: both roots of either
angle are listed, and the sign filter keeps the right combination because the quantities whose signs it compares are tied by the
relation itself.
-/
namespace C03
open M3 Solver Scalar PyOps C01
noncomputable section

/-- **completeness of `_calc_remaining_detector_angles_delta`** -/
theorem detFromDelta_complete (delta theta nu0 qaz0 : ℝ) (hD : DetSpec delta nu0 qaz0 theta)
    (hcd : Scalar.isSmall (Real.cos delta) = false) (hs2 : Scalar.isSmall (Real.sin (2 * theta)) = false)
    (hgq : Scalar.isSmall (Real.cos (Real.arcsin (Real.sin delta / Real.sin (2 * theta)))) = false)
    (hgn : Scalar.isSmall (Real.arccos (Real.cos (2 * theta) / Real.cos delta)) = false)
    (hsn : Scalar.isSmall (Real.sin nu0) = false) (hcq : Scalar.isSmall (Real.cos qaz0) = false) :
    ∃ l, detFromDelta delta theta = .ok l ∧ ∃ t ∈ l, t.1 = delta ∧ SameAngle t.2.1 nu0 ∧ SameAngle t.2.2 qaz0 := by
  have hx : Real.sin qaz0 = Real.sin delta / Real.sin (2 * theta) := by rw [hD.1, mul_div_cancel_left₀ _ (not_small_ne_zero hs2)]
  have hy : Real.cos nu0 = Real.cos (2 * theta) / Real.cos delta := by rw [← hD.2.2, mul_div_cancel_left₀ _ (not_small_ne_zero hcd)]
  have hxabs := hx ▸ Real.abs_sin_le_one qaz0
  have hyabs := hy ▸ Real.abs_cos_le_one nu0
  obtain ⟨q, hq, hqs⟩ := exists_mem_pair (asin_roots_complete qaz0 _ hxabs hx)
  obtain ⟨n, hn, hns⟩ := exists_mem_pair (acos_roots_complete nu0 _ hyabs hy)
  refine ⟨_, detFromDelta_eq rfl rfl hcd hxabs hyabs hgq hgn, (delta, n, q),
    List.mem_filterMap.mpr ⟨(q, n), mem_pairs.mpr ⟨hq, hn⟩, ?_⟩, rfl, hns, hqs⟩
  -- the pair of roots congruent to the given angles passes the sign filter, because those satisfy the relation
  rw [if_pos]
  rw [hqs.2, hns.1]
  exact (detSpec_iff_sign_delta hcd hs2 hcq hsn hD.1 hD.2.2).mp hD

/-- **completeness of `_calc_remaining_detector_angles_nu`** -/
theorem detFromNu_complete (nu theta delta0 qaz0 : ℝ) (hD : DetSpec delta0 nu qaz0 theta)
    (hcn : Scalar.isSmall (Real.cos nu) = false) (hs2 : Scalar.isSmall (Real.sin (2 * theta)) = false)
    (hgq : Scalar.isSmall (Real.arccos (Real.cos (2 * theta) / Real.cos nu * Real.sin nu / Real.sin (2 * theta))) = false)
    (hgd : Scalar.isSmall (Real.arccos (Real.cos (2 * theta) / Real.cos nu)) = false)
    (hsd : Scalar.isSmall (Real.sin delta0) = false) (hsq : Scalar.isSmall (Real.sin qaz0) = false) :
    ∃ l, detFromNu nu theta = .ok l ∧ ∃ t ∈ l, SameAngle t.1 delta0 ∧ t.2.1 = nu ∧ SameAngle t.2.2 qaz0 := by
  have hx : Real.cos delta0 = Real.cos (2 * theta) / Real.cos nu := by rw [← hD.2.2, mul_div_cancel_right₀ _ (not_small_ne_zero hcn)]
  have hy : Real.cos qaz0 = Real.cos (2 * theta) / Real.cos nu * Real.sin nu / Real.sin (2 * theta) := by
    rw [← hx, hD.2.1, mul_div_cancel_left₀ _ (not_small_ne_zero hs2)]
  have hxabs := hx ▸ Real.abs_cos_le_one delta0
  have hyabs := hy ▸ Real.abs_cos_le_one qaz0
  obtain ⟨q, hq, hqs⟩ := exists_mem_pair (acos_roots_complete qaz0 _ hyabs hy)
  obtain ⟨d, hd, hds⟩ := exists_mem_pair (acos_roots_complete delta0 _ hxabs hx)
  refine ⟨_, detFromNu_eq rfl rfl hcn hxabs hyabs hgd hgq, (d, nu, q),
    List.mem_filterMap.mpr ⟨(q, d), mem_pairs.mpr ⟨hq, hd⟩, ?_⟩, hds, rfl, hqs⟩
  rw [if_pos]
  rw [hqs.1, hds.1]
  exact (detSpec_iff_sign_nu hsd hsq hs2 hD.2.1 hD.2.2).mp hD

/-- the detector position honours the mode's detector constraint -/
def DetCarries (det : DetCon ℝ) (delta nu : ℝ) : Prop :=
  match det with
  | .delta v => delta = v
  | .nu v => nu = v
  | .qaz v => SameAngle (qazOf delta nu) v

/-- generic branch of the detector solver that handles the constraint, at the position to be recovered -/
def DetRegular (det : DetCon ℝ) (delta nu theta : ℝ) : Prop :=
  match det with
  | .delta _ => Scalar.isSmall (Real.cos delta) = false ∧ Scalar.isSmall (Real.sin (2 * theta)) = false ∧
      Scalar.isSmall (Real.cos (Real.arcsin (Real.sin delta / Real.sin (2 * theta)))) = false ∧
      Scalar.isSmall (Real.arccos (Real.cos (2 * theta) / Real.cos delta)) = false ∧
      Scalar.isSmall (Real.sin nu) = false ∧ Scalar.isSmall (Real.cos (qazOf delta nu)) = false
  | .nu _ => Scalar.isSmall (Real.cos nu) = false ∧ Scalar.isSmall (Real.sin (2 * theta)) = false ∧
      Scalar.isSmall (Real.arccos (Real.cos (2 * theta) / Real.cos nu * Real.sin nu / Real.sin (2 * theta))) = false ∧
      Scalar.isSmall (Real.arccos (Real.cos (2 * theta) / Real.cos nu)) = false ∧
      Scalar.isSmall (Real.sin delta) = false ∧ Scalar.isSmall (Real.sin (qazOf delta nu)) = false
  | .qaz _ => Scalar.isSmall (Real.cos delta) = false

/-- **completeness of the detector layer, whichever detector angle is constrained** -/
theorem detRemaining_complete (det : DetCon ℝ) (delta nu theta : ℝ) (hD : DetSpec delta nu (qazOf delta nu) theta)
    (hc : DetCarries det delta nu) (hr : DetRegular det delta nu theta) :
    ∃ ds, detRemaining det theta = .ok ds ∧ ∃ d ∈ ds, SameAngle d.1 delta ∧ SameAngle d.2.1 nu ∧ SameAngle d.2.2 (qazOf delta nu) := by
  cases det with
  | delta v =>
    obtain rfl := hc
    obtain ⟨l, hl, t, ht, h1, h2, h3⟩ := detFromDelta_complete delta theta nu _ hD hr.1 hr.2.1 hr.2.2.1 hr.2.2.2.1 hr.2.2.2.2.1 hr.2.2.2.2.2
    exact ⟨l, hl, t, ht, sameAngle_of_eq h1, h2, h3⟩
  | nu v =>
    obtain rfl := hc
    obtain ⟨l, hl, t, ht, h1, h2, h3⟩ := detFromNu_complete nu theta delta _ hD hr.1 hr.2.1 hr.2.2.1 hr.2.2.2.1 hr.2.2.2.2.1 hr.2.2.2.2.2
    exact ⟨l, hl, t, ht, h1, sameAngle_of_eq h2, h3⟩
  | qaz v =>
    obtain ⟨t, ht, h1, h2, h3⟩ := detFromQaz_complete delta nu v theta (detSpec_congr _ _ _ _ _ hc hD) hr
    exact ⟨_, rfl, t, ht, h1, h2, h3 ▸ sameAngle_symm hc⟩

/-! ## names this property's check refers to; each restates a fact proved elsewhere -/

/-- equal products of quantities away from zero have equal products of (three-valued) signs -/
theorem sign_mul_eq_of_mul_eq (a b c d : ℝ) (ha : Scalar.isSmall a = false) (hb : Scalar.isSmall b = false)
    (hc : Scalar.isSmall c = false) (hd : Scalar.isSmall d = false) (h : a * b = c * d) :
    (Scalar.sign a : ℝ) * Scalar.sign b = Scalar.sign c * Scalar.sign d :=
  (mul_eq_mul_iff_sign ha hb hc hd (by rw [h])).mp h

end
end C03
