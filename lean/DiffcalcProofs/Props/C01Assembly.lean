import DiffcalcProofs.Props.Pipeline
import DiffcalcProofs.Props.CalcN
import DiffcalcProofs.Props.C01Detector
import DiffcalcProofs.Props.C01Reference
/-!
# C01 — exactness end to end, for every mode family

Every candidate tuple produced by `__calc_hkl_to_position` satisfies the forward model **exactly**, `fwd(UB, position, λ) = hkl`, on the
generic branch of each layer.  A candidate is right exactly when it satisfies the detector relation and `Z·ĥ = q̂(θ, qaz)` at one common qaz
(`LayerSpec`); for each family that is shown of every candidate of `layers` (`detSamp2_layerSpec`, `samp3_layerSpec`,
`twoSampleAndReference_sound`, and in place for the single-sample family), and `fwd_of_request` turns it into the statement about
`candidates` and the forward model.  `getPosition_exact` carries it from the candidates to the returned list.
-/
namespace C01
open M3 Solver Scalar PyOps
noncomputable section

/-! ## detector constraint + two sample angles (`_calc_det_sample_reference`, two-sample branch) -/

/-- every candidate is glued from a triple `t` of the detector layer and a tuple of the sample layer run at `t`'s azimuth, and satisfies
    both relations at that azimuth as soon as `t` satisfies the detector relation -/
theorem detSamp2_layerSpec (det : DetCon ℝ) (s : Samp2Det ℝ) (h n : V3 ℝ) (theta : ℝ) (hh : 0 < V3.norm h) (hn : 0 < V3.norm n)
    (hx : (1e-7 : ℝ) < V3.norm (V3.cross (V3.unit h) (V3.unit n))) (N : M3 ℝ) (hN : calcN h n = .ok N) :
    AllOk (fun sol : Sol ℝ => ∃ ds, detRemaining det theta = .ok ds ∧
        ∃ t ∈ ds, t.1 = sol.2.1 ∧ t.2.1 = sol.2.2.1 ∧
          (Samp2DetGeneric s N theta t.2.2 → ClipMuEta N theta t.2.2 (sol.1, sol.2.2.2.1, sol.2.2.2.2.1, sol.2.2.2.2.2) →
            DetSpec t.1 t.2.1 t.2.2 theta → LayerSpec theta (V3.unit h) sol))
      (detSampleReference (some det) none (.two s) h n theta none none) := by
  unfold detSampleReference
  refine allOk_bind fun N' hN' => allOk_bind fun ds hds => allOk_forM' _ _ fun t ht => allOk_bind fun ss hss => allOk_ok fun sol hsol => ?_
  cases hN.symm.trans hN'
  obtain ⟨hNrot, hNcol⟩ := calcN_generic h n N hh hn hx hN
  obtain ⟨p, hp, rfl⟩ := List.mem_map.mp hsol
  refine ⟨ds, hds, t, ht, rfl, rfl, fun hgen hclip hD => ⟨t.2.2, hD, ?_⟩⟩
  rw [← hNcol]
  exact twoSampleDetector_sound s t.2.2 theta N hNrot.col_sq.1 hgen ss hss p hp hclip

/-- **qaz + two sample angles, end to end** -/
theorem detSamp2_qaz_exact (ub : UBIn ℝ) (U : M3 ℝ) (hU : IsRot U) (hUB : ub.UB = M3.mul U ub.B) (hB : M3.det ub.B ≠ 0)
    (q : ℝ) (s : Samp2Det ℝ) (hkl : V3 ℝ) (wl : ℝ) (hwl : 0 < wl)
    (hne : 0 < V3.norm (M3.mulVec ub.B hkl)) (hn : 0 < V3.norm ub.n_phi)
    (hreach : wl * V3.norm (M3.mulVec ub.B hkl) / (4 * Real.pi) ≤ 1)
    (hx : (1e-7 : ℝ) < V3.norm (V3.cross (V3.unit (M3.mulVec ub.UB hkl)) (V3.unit ub.n_phi)))
    (hgen : ∀ N, calcN (M3.mulVec ub.UB hkl) ub.n_phi = .ok N →
      Samp2DetGeneric s N (Real.arcsin (wl * V3.norm (M3.mulVec ub.B hkl) / (4 * Real.pi))) q)
    (l : List (Sol ℝ)) (h : candidates ub (.detSamp2 (.qaz q) s) hkl wl = .ok l) :
    ∀ sol ∈ l, ∀ N, calcN (M3.mulVec ub.UB hkl) ub.n_phi = .ok N →
      Scalar.isSmall (Real.cos sol.2.1) = false →
      ClipMuEta N (Real.arcsin (wl * V3.norm (M3.mulVec ub.B hkl) / (4 * Real.pi))) q (sol.1, sol.2.2.2.1, sol.2.2.2.2.1, sol.2.2.2.2.2) →
      C04.fwd ub.UB sol.1 sol.2.1 sol.2.2.1 sol.2.2.2.1 sol.2.2.2.2.1 sol.2.2.2.2.2 wl = hkl := by
  obtain ⟨hpos, hcand, hfwd⟩ := fwd_of_request ub U hU hUB hB (.detSamp2 (.qaz q) s) hkl wl hwl hne hreach
  rw [hcand] at h
  intro sol hsol N hN hcd hclip
  refine hfwd sol ?_
  obtain ⟨ds, hds, t, ht, hd, _, hL⟩ := detSamp2_layerSpec (.qaz q) s _ ub.n_phi _ hpos hn hx N hN l h sol hsol
  cases hds
  -- the detector layer from qaz hands on `q` itself
  rw [detFromQaz_qaz q _ t ht] at hL
  exact hL (hgen N hN) hclip (detSpec_of_mem_detFromQaz ht (hd ▸ hcd))

/-- **any detector constraint (delta, nu or qaz) + two sample angles, end to end**: all 27 mode shapes of this class.
    Every side condition is on a value the solver itself produced (the detector triples of `detRemaining`, the tuple at hand). -/
theorem detSamp2_exact (ub : UBIn ℝ) (U : M3 ℝ) (hU : IsRot U) (hUB : ub.UB = M3.mul U ub.B) (hB : M3.det ub.B ≠ 0)
    (det : DetCon ℝ) (s : Samp2Det ℝ) (hkl : V3 ℝ) (wl : ℝ) (hwl : 0 < wl)
    (hne : 0 < V3.norm (M3.mulVec ub.B hkl)) (hn : 0 < V3.norm ub.n_phi)
    (hreach : wl * V3.norm (M3.mulVec ub.B hkl) / (4 * Real.pi) ≤ 1)
    (hx : (1e-7 : ℝ) < V3.norm (V3.cross (V3.unit (M3.mulVec ub.UB hkl)) (V3.unit ub.n_phi)))
    (hdgen : DetGeneric det (Real.arcsin (wl * V3.norm (M3.mulVec ub.B hkl) / (4 * Real.pi))))
    (hgen : ∀ N, calcN (M3.mulVec ub.UB hkl) ub.n_phi = .ok N →
      ∀ ds, detRemaining det (Real.arcsin (wl * V3.norm (M3.mulVec ub.B hkl) / (4 * Real.pi))) = .ok ds → ∀ t ∈ ds,
      Samp2DetGeneric s N (Real.arcsin (wl * V3.norm (M3.mulVec ub.B hkl) / (4 * Real.pi))) t.2.2)
    (l : List (Sol ℝ)) (h : candidates ub (.detSamp2 det s) hkl wl = .ok l) :
    ∀ sol ∈ l, ∀ N, calcN (M3.mulVec ub.UB hkl) ub.n_phi = .ok N →
      Scalar.isSmall (Real.cos sol.2.1) = false → Scalar.isSmall (Real.sin sol.2.1) = false → Scalar.isSmall (Real.sin sol.2.2.1) = false →
      (∀ ds, detRemaining det (Real.arcsin (wl * V3.norm (M3.mulVec ub.B hkl) / (4 * Real.pi))) = .ok ds → ∀ t ∈ ds,
        t.1 = sol.2.1 → t.2.1 = sol.2.2.1 → Scalar.isSmall (Real.sin t.2.2) = false ∧
        ClipMuEta N (Real.arcsin (wl * V3.norm (M3.mulVec ub.B hkl) / (4 * Real.pi))) t.2.2 (sol.1, sol.2.2.2.1, sol.2.2.2.2.1, sol.2.2.2.2.2)) →
      C04.fwd ub.UB sol.1 sol.2.1 sol.2.2.1 sol.2.2.2.1 sol.2.2.2.2.1 sol.2.2.2.2.2 wl = hkl := by
  obtain ⟨hpos, hcand, hfwd⟩ := fwd_of_request ub U hU hUB hB (.detSamp2 det s) hkl wl hwl hne hreach
  rw [hcand] at h
  intro sol hsol N hN hcd hsd hsn hq
  refine hfwd sol ?_
  obtain ⟨ds, hds, t, ht, hd, hnu, hL⟩ := detSamp2_layerSpec det s _ ub.n_phi _ hpos hn hx N hN l h sol hsol
  obtain ⟨hsq, hclip⟩ := hq ds hds t ht hd hnu
  exact hL (hgen N hN ds hds t ht) hclip
    (detRemaining_sound det _ hdgen ds hds t ht (hd ▸ hcd) (hd ▸ hsd) (hnu ▸ hsn) hsq)

/-! ## three sample angles given (`_calc_three_sample`) -/

/-- `__get_last_sample_angle` and `__get_qaz_value` see the scattering vector only through its direction -/
theorem lastABC_unit (free : Free) (mu eta chi phi : ℝ) (h : V3 ℝ) (hh : 0 < V3.norm h) (theta : ℝ) :
    lastABC free mu eta chi phi h theta = lastABC free mu eta chi phi (V3.unit h) theta := by
  unfold lastABC
  rw [V3.normalised_eq_unit, V3.normalised_eq_unit, V3.unit_unit hh]

theorem threeSample_unit (free : Free) (mu eta chi phi : ℝ) (h : V3 ℝ) (hh : 0 < V3.norm h) (theta : ℝ) :
    threeSample free mu eta chi phi h theta = threeSample free mu eta chi phi (V3.unit h) theta := by
  unfold threeSample lastSampleAngle qazValue
  simp only [lastABC_unit free mu eta chi phi h hh theta, V3.normalised_eq_unit, V3.unit_unit hh]

/-- every candidate of `_calc_three_sample` carries the three given angles and one of the values returned for the free axis -/
theorem threeSample_mem (free : Free) (mu eta chi phi : ℝ) (h : V3 ℝ) (theta : ℝ) (l : List (Sol ℝ))
    (hl : threeSample free mu eta chi phi h theta = .ok l) (hne : l ≠ []) :
    ∃ vals, lastSampleAngle free mu eta chi phi h theta = .ok vals ∧
      ∀ s ∈ l, ∃ v ∈ vals, (s.1, s.2.2.2.1, s.2.2.2.2.1, s.2.2.2.2.2) = assign free mu eta chi phi v := by
  rw [threeSample_eq] at hl
  unfold tryAssert at hl
  split at hl
  · cases hl; exact absurd rfl hne
  · cases hl
  · rename_i vals hv
    cases hl
    refine ⟨vals, hv, fun s hs => ?_⟩
    obtain ⟨v, hvm, hv'⟩ := List.mem_flatMap.mp hs
    obtain ⟨d, _, rfl⟩ := List.mem_map.mp hv'
    exact ⟨v, hvm, rfl⟩

theorem samp3_layerSpec (free : Free) (mu eta chi phi : ℝ) (h : V3 ℝ) (hh : 0 < V3.norm h) (theta : ℝ)
    (hct : Scalar.isSmall (Real.cos theta) = false)
    (hclip : let abc := lastABC free mu eta chi phi h theta
      |abc.2.2 / Scalar.hypot abc.1 abc.2.1| ≤ 1 ∧ Scalar.isSmall (Real.arccos (abc.2.2 / Scalar.hypot abc.1 abc.2.1)) = false) :
    AllOk (fun sol : Sol ℝ => Scalar.isSmall (Real.cos sol.2.1) = false → LayerSpec theta (V3.unit h) sol)
      (threeSample free mu eta chi phi h theta) := by
  rw [threeSample_unit free mu eta chi phi h hh theta]
  dsimp only at hclip
  rw [lastABC_unit free mu eta chi phi h hh theta] at hclip
  intro l hl sol hsol hcd
  obtain ⟨vals, hvals, hmem⟩ := threeSample_mem free mu eta chi phi _ theta l hl (List.ne_nil_of_mem hsol)
  obtain ⟨v, hv, htuple⟩ := hmem sol hsol
  have hS := threeSample_sample_sound free mu eta chi phi _ (V3.norm_unit h hh) theta hct hclip.1 hclip.2 vals hvals v hv
  dsimp only at hS
  rw [← htuple] at hS
  exact ⟨_, threeSample_detector_sound free mu eta chi phi _ theta l hl sol hsol hcd, hS⟩

/-- **three sample angles given, end to end**: all 4 mode shapes (one per free axis) -/
theorem samp3_exact (ub : UBIn ℝ) (U : M3 ℝ) (hU : IsRot U) (hUB : ub.UB = M3.mul U ub.B) (hB : M3.det ub.B ≠ 0)
    (free : Free) (mu eta chi phi : ℝ) (hkl : V3 ℝ) (wl : ℝ) (hwl : 0 < wl)
    (hne : 0 < V3.norm (M3.mulVec ub.B hkl))
    (hreach : wl * V3.norm (M3.mulVec ub.B hkl) / (4 * Real.pi) ≤ 1)
    (hct : Scalar.isSmall (Real.cos (Real.arcsin (wl * V3.norm (M3.mulVec ub.B hkl) / (4 * Real.pi)))) = false)
    (hclip : let abc := lastABC free mu eta chi phi (M3.mulVec ub.UB hkl) (Real.arcsin (wl * V3.norm (M3.mulVec ub.B hkl) / (4 * Real.pi)))
      |abc.2.2 / Scalar.hypot abc.1 abc.2.1| ≤ 1 ∧ Scalar.isSmall (Real.arccos (abc.2.2 / Scalar.hypot abc.1 abc.2.1)) = false)
    (l : List (Sol ℝ)) (h : candidates ub (.samp3 free mu eta chi phi) hkl wl = .ok l) :
    ∀ sol ∈ l, Scalar.isSmall (Real.cos sol.2.1) = false →
      C04.fwd ub.UB sol.1 sol.2.1 sol.2.2.1 sol.2.2.2.1 sol.2.2.2.2.1 sol.2.2.2.2.2 wl = hkl := by
  obtain ⟨hpos, hcand, hfwd⟩ := fwd_of_request ub U hU hUB hB (.samp3 free mu eta chi phi) hkl wl hwl hne hreach
  rw [hcand] at h
  exact fun sol hsol hcd => hfwd sol (samp3_layerSpec free mu eta chi phi _ hpos _ hct hclip l h sol hsol hcd)

/-! ## reference constraint + two sample angles (`_calc_two_sample_and_reference`) -/

/-- the orientation equation contains the sample relation: on `e₀`, which `PSI` fixes and `THETA` takes to `(cos θ, −sin θ, 0)`, it reads
    `Z·N e₀ = q̂(θ, qaz)` -/
theorem refSpec_sampleSpec (psi theta : ℝ) (N : M3 ℝ) (r : RTuple ℝ) (h : RefSpec (Vref psi theta N) r) :
    SampleSpec ⟨N.a00, N.a10, N.a20⟩ theta r.1 (r.2.2.1, r.2.2.2.1, r.2.2.2.2.1, r.2.2.2.2.2) := by
  have hc : (⟨N.a00, N.a10, N.a20⟩ : V3 ℝ) = M3.mulVec N ⟨1, 0, 0⟩ := by simp [M3.mulVec]
  unfold SampleSpec
  rw [hc, refSpec_mulVec h, rotX_mulVec, rotZ_neg_mulVec]
  ext <;> simp only [Fq, M3.mulVec, qDir] <;> ring

/-- every candidate of `_calc_two_sample_and_reference` satisfies the detector relation and the sample relation at one common qaz -/
theorem twoSampleAndReference_sound (s : Samp2Ref ℝ) (h n : V3 ℝ) (theta psi : ℝ) (hh : 0 < V3.norm h) (hn : 0 < V3.norm n)
    (hx : (1e-7 : ℝ) < V3.norm (V3.cross (V3.unit h) (V3.unit n)))
    (hgen : ∀ N, calcN h n = .ok N → Samp2RefGeneric s psi theta N) :
    AllOk (fun sol : Sol ℝ => Scalar.isSmall (Real.cos sol.2.1) = false →
        ∃ qaz, DetSpec sol.2.1 sol.2.2.1 qaz theta ∧
          M3.mulVec (C04.Z sol.1 sol.2.2.2.1 sol.2.2.2.2.1 sol.2.2.2.2.2) (V3.unit h) = qDir theta qaz)
      (twoSampleAndReference s h n theta psi) := by
  unfold twoSampleAndReference
  refine allOk_bind fun N hN => ?_
  obtain ⟨hNrot, hNcol⟩ := calcN_generic h n N hh hn hx hN
  refine allOk_flatMap _ (twoSampleReference_sound s psi theta N hNrot (hgen N hN)) fun r hr sol hv hcd => ?_
  obtain ⟨d, hd, rfl⟩ := List.mem_map.mp hv
  exact ⟨r.1, detSpec_of_mem_detFromQaz hd hcd, hNcol ▸ refSpec_sampleSpec psi theta N r hr⟩

/-- **reference constraint + two sample angles, end to end**: all 42 mode shapes (7 reference constraints × 6 sample pairs) -/
theorem refSamp2_exact (ub : UBIn ℝ) (U : M3 ℝ) (hU : IsRot U) (hUB : ub.UB = M3.mul U ub.B) (hB : M3.det ub.B ≠ 0)
    (ref : RefCon ℝ) (s : Samp2Ref ℝ) (hkl : V3 ℝ) (wl : ℝ) (hwl : 0 < wl)
    (hne : 0 < V3.norm (M3.mulVec ub.B hkl))
    (hreach : wl * V3.norm (M3.mulVec ub.B hkl) / (4 * Real.pi) ≤ 1)
    (hvec : ∀ n alpha tau, nphiAlphaTau ub ref (M3.mulVec ub.UB hkl) (Real.arcsin (wl * V3.norm (M3.mulVec ub.B hkl) / (4 * Real.pi))) = .ok (n, alpha, tau) →
      0 < V3.norm n ∧ (1e-7 : ℝ) < V3.norm (V3.cross (V3.unit (M3.mulVec ub.UB hkl)) (V3.unit n)) ∧
      ∀ N psi, calcN (M3.mulVec ub.UB hkl) n = .ok N →
        some psi ∈ (match ref with
          | .psi v => [some v]
          | _ => calcPsi alpha (Real.arcsin (wl * V3.norm (M3.mulVec ub.B hkl) / (4 * Real.pi))) tau none) →
        Samp2RefGeneric s psi (Real.arcsin (wl * V3.norm (M3.mulVec ub.B hkl) / (4 * Real.pi))) N) :
    AllOk (fun sol : Sol ℝ => Scalar.isSmall (Real.cos sol.2.1) = false →
        C04.fwd ub.UB sol.1 sol.2.1 sol.2.2.1 sol.2.2.2.1 sol.2.2.2.2.1 sol.2.2.2.2.2 wl = hkl)
      (candidates ub (.refSamp2 ref s) hkl wl) := by
  obtain ⟨hpos, hcand, hfwd⟩ := fwd_of_request ub U hU hUB hB (.refSamp2 ref s) hkl wl hwl hne hreach
  rw [hcand]
  unfold layers
  refine allOk_bind fun ⟨n, alpha, tau⟩ hnat => allOk_forM' _ _ fun psi hpsi => ?_
  obtain ⟨hn, hx, hgen⟩ := hvec n alpha tau hnat
  cases psi with
  | none => exact allOk_nil
  | some p =>
    exact allOk_mono (twoSampleAndReference_sound s _ n _ p hpos hn hx fun N hN => hgen N p hN (by cases ref <;> exact hpsi))
      fun sol hL hcd => hfwd sol (hL hcd)

/-! ## detector (or naz) + reference + one sample angle (`_calc_det_sample_reference`, single-sample branch) -/

/-- every `(qaz, naz, delta, nu)` delivered by `_calc_detector_con_det_or_naz` satisfies the detector relation at its own qaz -/
theorem detOrNaz_sound (det : Option (DetCon ℝ)) (naz : Option ℝ) (theta : ℝ) (tau : Option ℝ) (alpha : ℝ)
    (hgen : ∀ d, det = some d → DetGeneric d theta) :
    AllOk (fun t : ℝ × Option ℝ × ℝ × ℝ => Scalar.isSmall (Real.cos t.2.2.1) = false → Scalar.isSmall (Real.sin t.2.2.1) = false →
        Scalar.isSmall (Real.sin t.2.2.2) = false → Scalar.isSmall (Real.sin t.1) = false → DetSpec t.2.2.1 t.2.2.2 t.1 theta)
      (detOrNaz det naz theta tau alpha) := by
  refine allOk_ite (allOk_error _) <| allOk_tryAssert fun nq _ => ?_
  cases det with
  | some d =>
    refine allOk_flatMap _ (detRemaining_sound d theta (hgen d rfl)) fun tr htr t ht => ?_
    obtain ⟨nzz, _, rfl⟩ := List.mem_map.mp ht
    exact htr
  | none =>
    cases naz with
    | none => exact allOk_nil
    | some nazv =>
      exact allOk_ok <| List.forall_mem_flatMap.2 fun qz _ => List.forall_mem_map.2 fun d hd h1 _ _ _ => detSpec_of_mem_detFromQaz hd h1

/-- **detector (or naz) + reference + one sample angle, end to end**: every candidate tuple satisfies the forward model exactly.
    Side conditions (all on values the solver itself computes): the reflection is reachable, the reference vector in use is not within
    1e-7 of the scattering vector in either frame, the detector layer is on its generic branch for the tuple at hand (`DetGeneric`, no
    small sine/cosine of the produced angles), and the single-sample branch is on its generic branch (`Samp1Generic`). -/
theorem detRefSamp_exact (ub : UBIn ℝ) (U : M3 ℝ) (hU : IsRot U) (hUB : ub.UB = M3.mul U ub.B) (hB : M3.det ub.B ≠ 0)
    (det : Option (DetCon ℝ)) (naz : Option ℝ) (ref : RefCon ℝ) (s : Samp1 ℝ) (hkl : V3 ℝ) (wl : ℝ) (hwl : 0 < wl)
    (hne : 0 < V3.norm (M3.mulVec ub.B hkl))
    (hreach : wl * V3.norm (M3.mulVec ub.B hkl) / (4 * Real.pi) ≤ 1)
    (hdgen : ∀ d, det = some d → DetGeneric d (Real.arcsin (wl * V3.norm (M3.mulVec ub.B hkl) / (4 * Real.pi))))
    (hvec : ∀ n alpha tau, nphiAlphaTau ub ref (M3.mulVec ub.UB hkl) (Real.arcsin (wl * V3.norm (M3.mulVec ub.B hkl) / (4 * Real.pi))) = .ok (n, alpha, tau) →
      0 < V3.norm n ∧ (1e-7 : ℝ) < V3.norm (V3.cross (V3.unit (M3.mulVec ub.UB hkl)) (V3.unit n)) ∧
      ∀ N_phi ds, calcN (M3.mulVec ub.UB hkl) n = .ok N_phi →
        detOrNaz det naz (Real.arcsin (wl * V3.norm (M3.mulVec ub.B hkl) / (4 * Real.pi))) (some tau) alpha = .ok ds →
        ∀ t ∈ ds, Scalar.isSmall (Real.sin t.1) = false ∧ 0 < V3.norm (nLab alpha t.2.1) ∧
          (1e-7 : ℝ) < V3.norm (V3.cross (qDir (Real.arcsin (wl * V3.norm (M3.mulVec ub.B hkl) / (4 * Real.pi))) t.1) (V3.unit (nLab alpha t.2.1))) ∧
          ∀ N_lab, calcN (qDir (Real.arcsin (wl * V3.norm (M3.mulVec ub.B hkl) / (4 * Real.pi))) t.1) (nLab alpha t.2.1) = .ok N_lab →
            Samp1Generic s N_lab N_phi) :
    AllOk (fun sol : Sol ℝ => Scalar.isSmall (Real.cos sol.2.1) = false → Scalar.isSmall (Real.sin sol.2.1) = false →
        Scalar.isSmall (Real.sin sol.2.2.1) = false →
        C04.fwd ub.UB sol.1 sol.2.1 sol.2.2.1 sol.2.2.2.1 sol.2.2.2.2.1 sol.2.2.2.2.2 wl = hkl)
      (candidates ub (.detRefSamp det naz ref s) hkl wl) := by
  obtain ⟨hpos, hcand, hfwd⟩ := fwd_of_request ub U hU hUB hB (.detRefSamp det naz ref s) hkl wl hwl hne hreach
  rw [hcand]
  generalize Real.arcsin (wl * V3.norm (M3.mulVec ub.B hkl) / (4 * Real.pi)) = theta at hdgen hvec hfwd ⊢
  unfold layers detSampleReference
  refine allOk_bind fun ⟨n, alpha, tau⟩ hnat => allOk_bind fun N hN => allOk_bind fun ds hds =>
    allOk_forM' _ _ fun ⟨qaz, nazv, delta, nu⟩ hd => ?_
  obtain ⟨hn, hx, hlab⟩ := hvec n alpha tau hnat
  obtain ⟨hNrot, hNcol⟩ := calcN_generic _ n N hpos hn hx hN
  obtain ⟨hq, hnl, hxl, hs1⟩ := hlab N ds hN hds _ hd
  refine allOk_map _ (remainingSample_sound s theta alpha qaz nazv N hNrot fun N_lab hNl => ?_) ?_
  · -- the laboratory triad `_calc_remaining_sample_angles` builds for this tuple
    have hNl' : calcN (qDir theta qaz) (nLab alpha nazv) = .ok N_lab := by cases nazv <;> exact hNl
    have hq1 := norm_qDir theta qaz
    obtain ⟨hr, hc⟩ := calcN_generic _ _ N_lab (V3.norm_pos_of_norm_one hq1) hnl (by rw [V3.unit_of_norm_one hq1]; exact hxl) hNl'
    exact ⟨hr, by rw [hc, V3.unit_of_norm_one hq1], hs1 N_lab hNl'⟩
  · rintro ⟨mu, eta, chi, phi⟩ hS hcd hsd hsn
    exact hfwd _ ⟨qaz, detOrNaz_sound det naz theta (some tau) alpha hdgen ds hds (qaz, nazv, delta, nu) hd hcd hsd hsn hq, hNcol ▸ hS⟩

/-! ## from the candidates to the returned list -/

/-- `get_hkl` on a candidate converted to degrees is the forward model at the candidate's radians -/
theorem getHkl_solToPos (ub : UBIn ℝ) (s : Sol ℝ) (wl : ℝ) :
    getHkl ub (solToPos s) wl = C04.fwd ub.UB s.1 s.2.1 s.2.2.1 s.2.2.2.1 s.2.2.2.2.1 s.2.2.2.2.2 wl := by
  obtain ⟨mu, delta, nu, eta, chi, phi⟩ := s
  unfold getHkl solToPos Pos.rad
  simp only [scalar_toRad_toDeg]
  exact C04.getHkl_eq_fwd ub.UB mu delta nu eta chi phi wl

/-- **from candidates to the returned list**: every position returned by `get_position` is the tidied degree form of a candidate, and whenever
    the degenerate tidy-up leaves that candidate alone, any exactness statement about candidates transfers to `get_hkl` of the returned position -/
theorem getPosition_exact (ub : UBIn ℝ) (mode : Mode ℝ) (hkl : V3 ℝ) (wl : ℝ) (P : Sol ℝ → Prop)
    (hP : AllOk (fun s : Sol ℝ => P s → C04.fwd ub.UB s.1 s.2.1 s.2.2.1 s.2.2.2.1 s.2.2.2.2.1 s.2.2.2.2.2 wl = hkl) (candidates ub mode hkl wl))
    (l : List (Pos ℝ × VAngles ℝ)) (h : getPosition ub mode hkl wl = .ok l) :
    ∀ pv ∈ l, ∃ s : Sol ℝ, pv.1 = tidy mode.info (solToPos s) ∧
      (P s → tidy mode.info (solToPos s) = solToPos s → getHkl ub pv.1 wl = hkl) := by
  intro pv hpv
  obtain ⟨_, _, cands, s, hc, hs, hps⟩ := C02.filter_sound ub mode hkl wl l (C02.getPosition_ok h).1 pv hpv
  refine ⟨s, hps, fun hPs htidy => ?_⟩
  rw [hps, htidy, getHkl_solToPos]
  exact hP cands hc s hs hPs
end
end C01
