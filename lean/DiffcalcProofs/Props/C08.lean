import Diffcalc.Model.UBState
import DiffcalcProofs.Lemmas.History
import DiffcalcProofs.Lemmas.RealLinalg
/-!
# C08 — U stays a proper rotation and UB = U·B through every history of UB operations
(and the UB part of C17: a rejected update changes nothing)

Model: `Diffcalc/Model/UBState.lean` (hand, tie H: random histories through the real `UBCalculation`, `U`/`UB`
compared after every operation).  Real-number reading.
-/
namespace C08
open UBState M3
noncomputable section

/-- the invariant of the property: whenever `U` is defined it is a proper rotation, and whenever a lattice and
    `U` are both defined the stored `UB` equals `U·B` of the *current* lattice -/
def Inv (s : UBState ℝ) : Prop :=
  (∀ u, s.U = some u → IsRot u) ∧ (∀ b u, s.B = some b → s.U = some u → s.UB = some (M3.mul u b))

/-- "rotation-valued inputs": what the property assumes about the arguments of each operation -/
def ValidOp (s : UBState ℝ) : UOp ℝ → Prop
  | .setU (some m) => IsRot m
  | .setUb (some m) => match s.B with | some b => IsRot (M3.mul m (M3.inv b)) | none => True
  | .setMiscut rot _ => IsRot rot
  | .calcUb (some u) => IsRot u
  | .refineUb _ (some r) => IsRot r
  | .fitUb _ (some u) => IsRot u
  | _ => True

theorem sdiv_cbrt_det_of_isRot {m : M3 ℝ} (h : IsRot m) : M3.sdiv m (Scalar.cbrt (M3.det m)) = m := by
  rw [h.2, show Scalar.cbrt (1 : ℝ) = 1 from cbrtR_one, M3.sdiv_eq_smul, one_div_one, M3.one_smul]

/-- how the invariant is shown of a state with a `U`: that `U` is proper, and `UB = U·B` if there is a lattice -/
theorem Inv.of_U {B UB : Option (M3 ℝ)} {u : M3 ℝ} (hu : IsRot u) (hub : ∀ b, B = some b → UB = some (M3.mul u b)) :
    Inv ⟨B, some u, UB⟩ :=
  ⟨fun _ h => Option.some.inj h ▸ hu, fun b _ hb h => Option.some.inj h ▸ hub b hb⟩

theorem inv_init : Inv (UBState.init : UBState ℝ) := by
  constructor <;> (intros; simp_all [UBState.init])

theorem inv_setLattice (s : UBState ℝ) (b : M3 ℝ) (h : Inv s) : Inv (s.setLatticeOk b) := by
  refine ⟨h.1, fun b' u hb hu => ?_⟩
  cases hb
  simp only [setLatticeOk, show s.U = some u from hu]

theorem inv_setU (s : UBState ℝ) (m : M3 ℝ) (hm : IsRot m) (h : Inv s) : Inv (s.setUOk m) := by
  simp only [setUOk, sdiv_cbrt_det_of_isRot hm]
  exact .of_U hm fun b hb => by rw [show s.B = some b from hb]

theorem inv_setUb (s : UBState ℝ) (m : M3 ℝ)
    (hm : match s.B with | some b => IsRot (M3.mul m (M3.inv b)) | none => True) (h : Inv s) :
    Inv (s.setUbOk m) := by
  unfold setUbOk
  cases hB : s.B with
  | none => exact ⟨h.1, fun b u hb => nomatch hb⟩
  | some b =>
    simp only [hB] at hm
    simp only [sdiv_cbrt_det_of_isRot hm]
    exact .of_U hm fun b' hb => by cases hb; rfl

theorem inv_setMiscut (s : UBState ℝ) (rot : M3 ℝ) (add : Bool) (hr : IsRot rot) (h : Inv s) :
    Inv (s.setMiscutOk rot add) := by
  unfold setMiscutOk
  cases hU : s.U with
  | none => exact inv_setU s rot hr h
  | some u =>
    cases add with
    | false => exact inv_setU s rot hr h
    | true => exact inv_setU s _ (IsRot.mul hr (h.1 u hU)) h

/-- one operation on rotation-valued inputs keeps the invariant -/
theorem inv_step (s : UBState ℝ) (op : UOp ℝ) (hv : ValidOp s op) (h : Inv s) : Inv (s.step op).1 := by
  -- `refine_ub` and `fit_ub` begin by taking the new lattice if there is one: `fitUb nb none` is that step alone
  have lat : ∀ nb : Option (M3 ℝ), Inv (s.step (.fitUb nb none)).1 := by
    rintro (_ | b)
    exacts [h, inv_setLattice s b h]
  cases op with
  | setLattice nb => cases nb; exacts [h, inv_setLattice s _ h]
  | setU m => cases m; exacts [h, inv_setU s _ hv h]
  | setUb m => cases m; exacts [h, inv_setUb s _ hv h]
  | setMiscut rot add => exact inv_setMiscut s rot add hv h
  | calcUb u =>
    unfold UBState.step
    cases hB : s.B with
    | none => exact h
    | some b =>
      cases u with
      | none => exact h
      | some u => exact .of_U hv fun b' hb => by cases hb; rfl
  | refineUb nb rot => cases rot; exacts [lat nb, inv_setMiscut _ _ true hv (lat nb)]
  | fitUb nb nu => cases nu; exacts [lat nb, inv_setU _ _ hv (lat nb)]

/-- a history whose every operation is applied to rotation-valued inputs (checked against the state it meets) -/
def ValidHist : UBState ℝ → List (UOp ℝ) → Prop
  | _, [] => True
  | s, op :: ops => ValidOp s op ∧ ValidHist (s.step op).1 ops

/-- **C08**: after any finite history of the public orientation operations on rotation-valued inputs,
    `U` (when defined) is a proper rotation and `UB = U·B(current lattice)` (when both are defined) -/
theorem inv_history (ops : List (UOp ℝ)) (s : UBState ℝ) (hv : ValidHist s ops) (h : Inv s) :
    Inv (ops.foldl (fun st op => (st.step op).1) s) :=
  (List.foldl_induct _ (fun s ops => ValidHist s ops ∧ Inv s)
    (fun s op _ h => ⟨h.1.2, inv_step s op h.1.1 h.2⟩) ops s ⟨hv, h⟩).2

theorem c08_history (ops : List (UOp ℝ)) (hv : ValidHist UBState.init ops) :
    Inv (ops.foldl (fun st op => (st.step op).1) UBState.init) :=
  inv_history ops _ hv inv_init

/-- `set_miscut(axis, angle)` makes `U` the given rotation, composed on the left of the previous `U` when `add` is requested -/
theorem setMiscut_spec (s : UBState ℝ) (rot : M3 ℝ) (hr : IsRot rot) :
    (s.setMiscutOk rot false).U = some rot ∧
    (∀ u, s.U = some u → IsRot u → (s.setMiscutOk rot true).U = some (M3.mul rot u)) ∧
    (s.U = none → (s.setMiscutOk rot true).U = some rot) := by
  refine ⟨?_, ?_, ?_⟩
  · unfold setMiscutOk
    cases s.U <;> simp [setUOk, sdiv_cbrt_det_of_isRot hr]
  · intro u hu hur
    simp [setMiscutOk, hu, setUOk, sdiv_cbrt_det_of_isRot (IsRot.mul hr hur)]
  · intro hu
    simp [setMiscutOk, hu, setUOk, sdiv_cbrt_det_of_isRot hr]

/-- **C17 (UB operations)**: a rejected update leaves `(crystal, U, UB)` unchanged -/
theorem step_error_unchanged (s : UBState ℝ) (op : UOp ℝ) (e : UErr) (h : (s.step op).2 = .error e) :
    (s.step op).1 = s := by
  -- every branch of `step` returns either the state it was given or `.ok`
  revert h
  unfold UBState.step
  (repeat' split) <;> intro h <;> first | rfl | cases h

/-- non-vacuity: a lattice change after `set_u` — the stored UB follows the new lattice -/
example (b b' : M3 ℝ) :
    let s := (((UBState.init : UBState ℝ).step (.setLattice (some b))).1.step (.setU (some M3.id))).1
    (s.step (.setLattice (some b'))).1.UB = some (M3.mul M3.id b') := by
  simp [UBState.step, setLatticeOk, setUOk, UBState.init, sdiv_cbrt_det_of_isRot isRot_id]
end
end C08
